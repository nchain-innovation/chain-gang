import CG.Proofs.Compose
import CG.Props.C05
import CG.Props.C11
/-!
# Composition and coherence theorems

Property theorems only; they tie separately built models and property theorems together.

End-to-end receive path (C05 ∘ C11): C11 proves that the receive loop emits exactly the
framed messages for an ABSTRACT payload decoder; C05 proves the decode∘encode law for the REAL
codecs and has its own model of `message_header.rs` / `Message::read`.  Here the abstract
configuration is instantiated with the real command table and codecs (`realCfg`), the two models
of `Message::read` are proved to agree on EVERY byte string (`Compose_header_models_agree`), and
the two property theorems are composed (`Compose_receive_real_messages`).

Then coherence: where a Rust function is modelled twice, the two models are the same function.
-/
namespace CG.Props.Compose
open CG CG.Model.Wire CG.Proofs.Framing CG.Proofs.Compose
open CG.Model.Framing (recvLoop LoopState DISCONNECTED)
open CG.Spec.Reassembly (Step step parseAll Frame)

/-- **The two models of `message_header.rs` + `Message::read` agree on every byte string.**
    For any hash, any magic and ANY input (valid, truncated, corrupted, unknown command, oversize,
    payload-less command with a non-zero length, …): C05's `readMessage` returns `(m, rest)` exactly
    when C11's reference step (which C11 proves the receive loop refines) yields message `m` and
    rest `rest`; an `Err`/panic of one is a stop of the other with the same class, where the only
    renaming is that a short read of the 24 header bytes or of the announced payload is
    `IoError` (UnexpectedEof on a byte string) in C05 and `err:IoNotConnected` (end of the socket
    stream) in C11.  Same 24-byte layout, same magic test, same size limit with the `block`
    exemption, same checksum rule `H(H(p))[0..4]`, same treatment of payload-less and unknown
    commands (checksum not inspected when no payload is read). -/
theorem Compose_header_models_agree (H : Bytes → Bytes) (magic : Bytes) (X : Bytes) :
    Agree (readMessage H magic X) (step (toWire (realCfg H magic)) X) :=
  read_step H magic X

theorem Compose_read_ok_iff_step_msg (H : Bytes → Bytes) (magic : Bytes) (X : Bytes) (m : Msg) (r : Bytes) :
    readMessage H magic X = .ok (m, r) ↔ step (toWire (realCfg H magic)) X = .msg m r :=
  Agree_ok_iff (read_step H magic X) m r

/-- C11's abstract configuration instantiated with C05's table is well-formed for every 4-byte
    magic and every hash with 32-byte output -/
theorem Compose_realCfg_wf (H : Bytes → Bytes) (hH : ∀ x, (H x).length = 32) (magic : Bytes)
    (hm : magic.length = 4) : (toWire (realCfg H magic)).WF :=
  ⟨hm, fun p => by show 4 ≤ (H (H p)).length; rw [hH]; omega⟩

/-- The command classification C11's driver regenerates from the tree on every run
    (`C11_CMDS_PAYLOAD`, `C11_CMDS_BARE`, `C11_CMD_BLOCK`, `C11_HEADER_SIZE`) is the one of C05's
    `table` (regenerated from `C05_CMD_*`): the same payload-carrying commands, the same six
    payload-less ones, the same `block`, the same size limit and header size. -/
theorem Compose_command_tables_agree :
    (∀ e ∈ table, (e.body.isSome = true ↔
        e.cmd ∈ (CG.Props.C11.chunks12 100 CG.Generated.C11_CMDS_PAYLOAD).map ofNats) ∧
      (e.body.isSome = false ↔
        e.cmd ∈ (CG.Props.C11.chunks12 100 CG.Generated.C11_CMDS_BARE).map ofNats)) ∧
    (∀ c ∈ (CG.Props.C11.chunks12 100 CG.Generated.C11_CMDS_PAYLOAD ++
            CG.Props.C11.chunks12 100 CG.Generated.C11_CMDS_BARE).map ofNats,
        c ∈ table.map (·.cmd)) ∧
    eBlock.cmd = ofNats CG.Generated.C11_CMD_BLOCK ∧
    CG.Model.Wire.HEADER_SIZE = CG.Model.Framing.HEADER_SIZE ∧
    CG.Model.Framing.HEADER_SIZE = CG.Generated.C11_HEADER_SIZE := by
  decide +kernel

/-- every in-range message, written by C05's `writeMessage` and followed by anything, is one step
    of C11's reference: C05's law transported along the agreement of the two header models -/
theorem Compose_written_message_steps (H : Bytes → Bytes) (hH : ∀ x, (H x).length = 32) (magic : Bytes)
    (hm : magic.length = 4) (m : Msg) (hr : Msg.InRange m) (Y : Bytes) :
    step (toWire (realCfg H magic)) (wireBytes H magic m ++ Y) = .msg m Y := by
  obtain ⟨bytes, hw⟩ := CG.Props.C05.C05_message_write_total H magic m hr
  have := CG.Props.C05.C05_message_dec_enc H hH magic hm m hr bytes hw Y
  rw [wireBytes, hw]
  exact (Compose_read_ok_iff_step_msg H magic _ m Y).mp this

theorem Compose_wireBytes_is_write (H : Bytes → Bytes) (magic : Bytes) (m : Msg) (hr : Msg.InRange m) :
    writeMessage H magic m = some (wireBytes H magic m) := by
  obtain ⟨bytes, hw⟩ := CG.Props.C05.C05_message_write_total H magic m hr
  rw [wireBytes, hw]; rfl

/-- A strict prefix of a written in-range message (what a stream cut in the middle of a message
    ends with), or nothing. -/
def TruncatedMessage (H : Bytes → Bytes) (magic : Bytes) (tail : Bytes) : Prop :=
  tail = [] ∨ ∃ m rest, Msg.InRange m ∧ rest ≠ [] ∧ tail ++ rest = wireBytes H magic m

theorem Compose_truncated_stops (H : Bytes → Bytes) (hH : ∀ x, (H x).length = 32) (magic : Bytes)
    (hm : magic.length = 4) (tail : Bytes) (ht : TruncatedMessage H magic tail) :
    step (toWire (realCfg H magic)) tail = .stop DISCONNECTED := by
  rcases ht with rfl | ⟨m, rest, hmr, hrest, hb⟩
  · exact step_short _ [] (by simp)
  · have := Compose_written_message_steps H hH magic hm m hmr []
    rw [List.append_nil, ← hb] at this
    exact step_strict_prefix _ tail rest m this hrest

theorem Compose_parseAll_written (H : Bytes → Bytes) (hH : ∀ x, (H x).length = 32) (magic : Bytes)
    (hm : magic.length = 4) (ms : List Msg) (hr : ∀ m ∈ ms, Msg.InRange m) (tail : Bytes) (e : String)
    (htail : step (toWire (realCfg H magic)) tail = .stop e) :
    parseAll (toWire (realCfg H magic)) (ms.flatMap (wireBytes H magic) ++ tail) = (ms, e) := by
  rw [parseAll_flatMap _ (wireBytes H magic) some ms
    (fun m hmem Y => ⟨m, rfl, Compose_written_message_steps H hH magic hm m (hr m hmem) Y⟩) tail,
    parseAll_stop htail]
  simp

/-- in-range messages followed by bytes at which the reference stops with `e`: given time to use
    up the schedule, the loop emits exactly the messages and stops with `e` -/
theorem Compose_receive_then_stop (H : Bytes → Bytes) (hH : ∀ x, (H x).length = 32)
    (magic : Bytes) (hm : magic.length = 4) (ms : List Msg) (hr : ∀ m ∈ ms, Msg.InRange m)
    (tail : Bytes) (e : String) (htail : step (toWire (realCfg H magic)) tail = .stop e)
    (sched : List Nat) (fuel : Nat)
    (hf : sched.length + (ms.flatMap (wireBytes H magic) ++ tail).length + ms.length < fuel) :
    recvLoop (realCfg H magic) fuel (LoopState.init (ms.flatMap (wireBytes H magic) ++ tail) sched) =
      (ms, .stopped e) := by
  have hp := Compose_parseAll_written H hH magic hm ms hr tail e htail
  rw [loop_complete _ _ sched fuel (by rw [hp]; exact hf), hp]

/-- **End-to-end receive path with the real codecs.**  For every list `ms` of in-range protocol
    messages (C05's `Msg.InRange`: field values in wire range, arm `validate()` passes, size within
    the limit `read` enforces), every 4-byte network magic and every hash with 32-byte output, the
    byte stream `ms.flatMap (Message::write)` followed by a truncated message (possibly nothing),
    delivered under ANY schedule (any fragmentation, any placement of timeouts / would-blocks),
    is received by the loop of `Peer::connect_internal` as exactly `ms`, in order — nothing lost,
    duplicated, reordered or altered, nothing from the incomplete tail — and the loop then ends in
    `disconnected` at end of stream.  `fuel` is the number of loop passes granted; the bound says
    only that the loop has been given time to consume the schedule. -/
theorem Compose_receive_real_messages (H : Bytes → Bytes) (hH : ∀ x, (H x).length = 32)
    (magic : Bytes) (hm : magic.length = 4) (ms : List Msg) (hr : ∀ m ∈ ms, Msg.InRange m)
    (tail : Bytes) (ht : TruncatedMessage H magic tail) (sched : List Nat) (fuel : Nat)
    (hf : sched.length + (ms.flatMap (wireBytes H magic) ++ tail).length + ms.length < fuel) :
    recvLoop (realCfg H magic) fuel (LoopState.init (ms.flatMap (wireBytes H magic) ++ tail) sched) =
      (ms, .stopped DISCONNECTED) :=
  Compose_receive_then_stop H hH magic hm ms hr tail _ (Compose_truncated_stops H hH magic hm tail ht)
    sched fuel hf

/-- **Error path with the real codecs.**  If what follows the messages is something C05's
    `Message::read` rejects with error class `e` (bad magic, oversize, bad checksum, a payload its
    codec or `validate()` rejects, a payload-less command announcing a payload, …), the loop emits
    exactly `ms` and leaves through its error arm with that class (`IoError` of a short read of
    header or payload being the socket's `NotConnected`). -/
theorem Compose_receive_then_rejects (H : Bytes → Bytes) (hH : ∀ x, (H x).length = 32)
    (magic : Bytes) (hm : magic.length = 4) (ms : List Msg) (hr : ∀ m ∈ ms, Msg.InRange m)
    (junk : Bytes) (e : String) (hj : readMessage H magic junk = .err e) (sched : List Nat) (fuel : Nat)
    (hf : sched.length + (ms.flatMap (wireBytes H magic) ++ junk).length + ms.length < fuel) :
    ∃ e', recvLoop (realCfg H magic) fuel (LoopState.init (ms.flatMap (wireBytes H magic) ++ junk) sched) =
        (ms, .stopped e') ∧ (e' = "err:" ++ e ∨ (e = "IoError" ∧ e' = DISCONNECTED)) := by
  have h := Compose_header_models_agree H magic junk
  rw [hj] at h
  obtain ⟨e', hs, hc⟩ := h
  exact ⟨e', Compose_receive_then_stop H hH magic hm ms hr junk e' hs sched fuel hf, hc⟩

/-- the same for the un-truncated stream: exactly `ms`, then disconnected at EOF -/
theorem Compose_receive_real_messages_complete (H : Bytes → Bytes) (hH : ∀ x, (H x).length = 32)
    (magic : Bytes) (hm : magic.length = 4) (ms : List Msg) (hr : ∀ m ∈ ms, Msg.InRange m)
    (sched : List Nat) (fuel : Nat)
    (hf : sched.length + (ms.flatMap (wireBytes H magic)).length + ms.length < fuel) :
    recvLoop (realCfg H magic) fuel (LoopState.init (ms.flatMap (wireBytes H magic)) sched) =
      (ms, .stopped DISCONNECTED) := by
  have := Compose_receive_real_messages H hH magic hm ms hr [] (Or.inl rfl) sched fuel (by simpa using hf)
  simpa using this

/-- before the schedule is used up: whatever has been emitted so far is a prefix of `ms` — for
    every amount of fuel -/
theorem Compose_receive_real_messages_prefix (H : Bytes → Bytes) (hH : ∀ x, (H x).length = 32)
    (magic : Bytes) (hm : magic.length = 4) (ms : List Msg) (hr : ∀ m ∈ ms, Msg.InRange m)
    (tail : Bytes) (ht : TruncatedMessage H magic tail) (sched : List Nat) (fuel : Nat) :
    (recvLoop (realCfg H magic) fuel (LoopState.init (ms.flatMap (wireBytes H magic) ++ tail) sched)).1
      <+: ms := by
  have h := (CG.Props.C11.C11_refines_contiguous (realCfg H magic)
    (ms.flatMap (wireBytes H magic) ++ tail) sched fuel).1
  rwa [Compose_parseAll_written H hH magic hm ms hr tail _
    (Compose_truncated_stops H hH magic hm tail ht)] at h

/-- **Where the sender sides of the two models differ.**  For a payload-carrying message C05's
    `writeMessage` IS C11's `Frame.bytes` of (command, encoded payload), for every `H`.  For the six
    payload-less commands `write_without_payload` emits the CONSTANT `NO_CHECKSUM`, whereas C11's
    `Frame.bytes` puts `H(H([]))[0..4]`; the two coincide exactly when `H(H([]))[0..4] = NO_CHECKSUM`
    (true of SHA-256, not of an arbitrary `H`).  The receiver never inspects that field, which is
    why `Compose_receive_real_messages` needs no such hypothesis. -/
theorem Compose_write_vs_frame (H : Bytes → Bytes) (magic : Bytes) (m : Msg) (hr : Msg.InRange m) :
    (∀ e c, entryOf m = some e → e.body = some c →
      writeMessage H magic m = some (Frame.bytes (toWire (realCfg H magic)) (frameOf m))) ∧
    (∀ e, entryOf m = some e → e.body = none →
      (writeMessage H magic m = some (Frame.bytes (toWire (realCfg H magic)) (frameOf m)) ↔
        (H (H [])).take 4 = NO_CHECKSUM)) := by
  refine ⟨fun e c he hb => write_eq_frame_payload H magic m e c he hb hr, fun e he hb => ?_⟩
  obtain ⟨h1, h2⟩ := write_bare H magic m e he hb
  rw [h1, h2]
  simp only [Option.some.injEq, List.append_cancel_left_eq]
  exact eq_comm

/-- a hash for which the payload-less frames of the two models differ (and the receive theorem
    still applies) -/
example : writeMessage (fun _ => List.replicate 32 0) [1, 2, 3, 4] .verack ≠
    some (Frame.bytes (toWire (realCfg (fun _ => List.replicate 32 0) [1, 2, 3, 4])) (frameOf .verack)) := by
  decide


open CG.Model

/-- All var-int / CompactSize ENCODERS of the framework are the same function on ALL naturals
    (also above `2^64`, where all truncate alike): C02's `TxSer.varInt` (also used by C18's
    `PyGlue.scriptSerialize`), C05's `Wire.varint.enc`, C20's `Bloom.varIntWrite`, and the
    independently written references `Spec.Bip143.compactSize`, `Spec.WireSpec.compactSize`,
    `Spec.Bip37Bloom.compactSize`. -/
theorem Compose_varint_encoders_agree (n : Nat) :
    TxSer.varInt n = Wire.varint.enc n ∧
    Bloom.varIntWrite n = Wire.varint.enc n ∧
    CG.Spec.Bip143.compactSize n = Wire.varint.enc n ∧
    CG.Spec.WireSpec.compactSize n = Wire.varint.enc n ∧
    CG.Spec.Bip37Bloom.compactSize n = Wire.varint.enc n :=
  ⟨txser_varInt_eq n, CG.Proofs.Bloom.varIntWrite_eq_varint n, bip143_compactSize_eq n, (Wire.varint_enc n).symm,
    bip37_compactSize_eq n⟩

/-- the two models of `var_int::read` (C20's and C05's) agree on every byte string, errors
    included; the two models of `var_int::size` agree on every natural -/
theorem Compose_varint_decoders_agree (b : Bytes) (n : Nat) :
    Bloom.varIntRead b = Wire.varint.dec b ∧ Bloom.varIntSize n = Wire.varint.size n :=
  ⟨CG.Proofs.Bloom.varIntRead_eq_varint b, rfl⟩

theorem Compose_outpoint_ser_eq_wire (o : Wire.OutPoint) :
    TxSer.serOutPoint (Conv.serOutPoint o) = Wire.outPointC.enc o := by
  simp [Wire.outPointC, TxSer.serOutPoint, TxSer.u32LE, Conv.serOutPoint, Wire.u32, Wire.uLE]

theorem Compose_txin_ser_eq_wire (i : Wire.TxIn) :
    TxSer.serTxIn (Conv.serTxIn i) = Wire.txInC.enc i := by
  simp [Wire.txInC, Wire.varBytes, TxSer.serTxIn, TxSer.u32LE, Conv.serTxIn, Wire.u32, Wire.uLE,
    Compose_outpoint_ser_eq_wire, txser_varInt_eq]

theorem Compose_txout_ser_eq_wire (o : Wire.TxOut) :
    TxSer.serTxOut (Conv.serTxOut o) = Wire.txOutC.enc o := by
  have e : TxSer.i64LE o.satoshis = Wire.i64.enc o.satoshis := by
    simp [TxSer.i64LE, Wire.i64, Wire.iLE, Wire.ofSigned]
  simp [Wire.txOutC, Wire.varBytes, TxSer.serTxOut, Conv.serTxOut, e, txser_varInt_eq]

/-- **`Tx::write`, modelled twice.**  C02's `serTx` and C05's `txC.enc` are the same function on
    corresponding values, for EVERY transaction (no range hypotheses: out-of-range integers are
    truncated identically). -/
theorem Compose_serTx_eq_wire (t : Wire.Tx) : TxSer.serTx (Conv.serTx t) = Wire.txC.enc t := by
  simp [Wire.txC, Wire.listCap, Wire.listPush, TxSer.serTx, TxSer.u32LE, Conv.serTx, Wire.u32, Wire.uLE,
    List.flatMap_def, Function.comp_def, Compose_txin_ser_eq_wire, Compose_txout_ser_eq_wire, txser_varInt_eq]

/-- the same read from C02's side: the conversion is a bijection -/
theorem Compose_serTx_eq_wire' (t : TxSer.Tx) : TxSer.serTx t = Wire.txC.enc (Conv.wireTx t) := by
  rw [← Compose_serTx_eq_wire, Conv.ser_wire]

theorem Compose_tx_conversion_bijective :
    (∀ t, Conv.wireTx (Conv.serTx t) = t) ∧ (∀ t, Conv.serTx (Conv.wireTx t) = t) :=
  ⟨Conv.wire_ser, Conv.ser_wire⟩

/-- C03/C04's transaction, serialised for the signature hash through C03's `toSer`, is the wire
    encoding of the same transaction -/
theorem Compose_validate_tx_ser_eq_wire (t : TxValidate.Tx) :
    TxSer.serTx (TxChecker.toSer t) = Wire.txC.enc (Conv.vTx t) := by
  rw [← Compose_serTx_eq_wire]
  congr 1
  obtain ⟨v, ins, outs, lt⟩ := t
  simp [TxChecker.toSer, Conv.vTx, Conv.serTx, List.map_map]
  constructor
  · intro a _; rfl
  · intro a _; rfl

/-- consequently C02's BIP-143 reference (which shares `TxSer`'s structures) lays outputs out as
    the wire codec does, for every amount in the `i64` range (below `-2^64` the reference's
    `le64s` clamps where the codec wraps: outside the type, no finding) -/
theorem Compose_bip143_txout_eq_wire (o : Wire.TxOut)
    (hs : -(2 : Int) ^ 63 ≤ o.satoshis ∧ o.satoshis < 2 ^ 63) :
    CG.Spec.Bip143.txOut (Conv.serTxOut o) = Wire.txOutC.enc o := by
  rw [← Compose_txout_ser_eq_wire]
  have e := (CG.Proofs.Sighash.i64LE_eq_le64s o.satoshis hs).symm
  simp [CG.Spec.Bip143.txOut, TxSer.serTxOut, Conv.serTxOut, e, bip143_compactSize_eq, txser_varInt_eq]

theorem Compose_header_serialize_eq_wire (h : Wire.BlockHeader) :
    Header.serialize (Conv.hdr h) = Wire.blockHeaderC.enc h := by
  simp [Wire.blockHeaderC, Header.serialize, Conv.hdr, Wire.u32, Wire.uLE]

theorem Compose_header_serialize_eq_wire' (h : Header.BlockHeader) :
    Header.serialize h = Wire.blockHeaderC.enc (Conv.wireHdr h) :=
  Compose_header_serialize_eq_wire (Conv.wireHdr h)

/-- so the block hash C19 reasons about is the hash of the 80 bytes C05 puts on the wire -/
theorem Compose_header_hash_eq_wire (sha256d : Bytes → Bytes) (h : Wire.BlockHeader) :
    Header.hash sha256d (Conv.hdr h) = sha256d (Wire.blockHeaderC.enc h) := by
  rw [Header.hash, Compose_header_serialize_eq_wire]


/-! ### `filterload`: C20's `flWrite` / `flRead` / `flSize` / `flValidate` = C05's codec -/

theorem Compose_filterload_write_eq_wire (f : Wire.FilterLoad) :
    Bloom.flWrite (Conv.fl f) = Wire.filterLoadC.enc f := by
  simp [Wire.filterLoadC, Wire.varBytes, Bloom.flWrite, Conv.fl, Wire.u32, Wire.u8, Wire.uLE,
    CG.Proofs.Bloom.varIntWrite_eq_varint, natToLEn, CG.ofNat_congr (Nat.mod_mod _ 256)]

theorem Compose_filterload_write_eq_wire' (f : Bloom.FilterLoad) :
    Bloom.flWrite f = Wire.filterLoadC.enc (Conv.wireFl f) :=
  Compose_filterload_write_eq_wire (Conv.wireFl f)

/-- **`FilterLoad::read`, modelled twice**: the same value, the same unread rest, the same error
    class, on EVERY byte string. -/
theorem Compose_filterload_read_eq_wire (b : Bytes) :
    Bloom.flRead b = (Wire.filterLoadC.dec b).bind fun p => .ok (Conv.fl p.1, p.2) := by
  simp only [Bloom.flRead, Wire.filterLoadC, Wire.iso, Wire.pair, Wire.dpair, Wire.varBytes,
    Wire.lenPrefixed, Wire.inj, CG.Proofs.Bloom.varIntRead_eq_varint, CG.Proofs.Bloom.readLE_eq_uLE, Wire.u32, Wire.u8]
  -- the four reads one after the other; an error or panic of any of them is the result on both sides
  rcases Wire.varint.dec b with ⟨n, r1⟩ | e | s <;>
    simp only [Wire.bind_ok, Wire.bind_err, Wire.bind_panic, Wire.vecBytes, Wire.bytesN]
  rcases takeExact n r1 with _ | ⟨flt, r2⟩ <;> simp only [Wire.bind_ok, Wire.bind_err]
  rcases (Wire.uLE 4).dec r2 with ⟨nh, r3⟩ | e | s <;> simp only [Wire.bind_ok, Wire.bind_err, Wire.bind_panic]
  rcases (Wire.uLE 4).dec r3 with ⟨tw, r4⟩ | e | s <;> simp only [Wire.bind_ok, Wire.bind_err, Wire.bind_panic]
  cases r4 <;> simp [Wire.uLE, takeExact, leToNat, Conv.fl]

theorem Compose_filterload_size_validate_eq_wire (f : Wire.FilterLoad) :
    Bloom.flSize (Conv.fl f) = Wire.filterLoadC.size f ∧
    Bloom.flValidate (Conv.fl f) = Wire.filterLoadValidate f := by
  constructor
  · have e : Wire.filterLoadC.size f =
        Wire.varint.size f.filter.length + f.filter.length + (4 + (4 + 1)) := rfl
    have e2 : Bloom.flSize (Conv.fl f) = Wire.varint.size f.filter.length + f.filter.length + 9 := rfl
    rw [e, e2]
  · rfl

/-- the output-sum loops: C05's `sumOutputs` and C04's repaired `sumLoop` agree from every
    accumulator in `0 ..= MAX_SATOSHIS`, in BOTH build profiles (the `i64` addition cannot overflow
    there, so neither C05's panic arm nor C04's dev-panic / release-wrap arm is reachable) -/
theorem Compose_sumOutputs_eq (p : TxValidate.Profile) (outs : List Wire.TxOut) (acc : Int)
    (h0 : 0 ≤ acc) (h1 : acc ≤ TxValidate.MAX) :
    Wire.sumOutputs outs acc =
      TxValidate.sumLoop .repaired p acc (TxValidate.outAmounts (outs.map Conv.toVTxOut)) := by
  have hG : TxValidate.MAX = 2100000000000000 := by decide
  induction outs generalizing acc with
  | nil => rfl
  | cons o os ih =>
    simp only [Wire.sumOutputs, List.map_cons, TxValidate.outAmounts, TxValidate.sumLoop, Conv.toVTxOut,
      true_and]
    -- `TxValidate.MAX` is `MAX_SATOSHIS` by definition
    change (if o.satoshis < 0 then _ else if o.satoshis > TxValidate.MAX then _
      else if _ then _ else if acc + o.satoshis > TxValidate.MAX then _ else _) = _
    by_cases a : o.satoshis < 0
    · simp only [if_pos a]
    · by_cases b : o.satoshis > TxValidate.MAX
      · simp only [if_neg a, if_pos b]
      · -- both operands are at most `MAX_SATOSHIS`: the `i64` addition is exact
        have c : ¬ acc + o.satoshis > Wire.I64_MAX := by simp only [Wire.I64_MAX]; omega
        have d : -(2 ^ 63) ≤ acc + o.satoshis ∧ acc + o.satoshis ≤ 2 ^ 63 - 1 := by omega
        simp only [if_neg a, if_neg b, if_neg c, TxValidate.addI64, if_pos d]
        by_cases e : acc + o.satoshis > TxValidate.MAX
        · simp only [if_pos e]
        · simp only [if_neg e]
          exact ih (acc + o.satoshis) (by omega) (by omega)

/-- **`PrefilledTransaction::validate`, modelled twice** (repaired tree, either profile) -/
theorem Compose_prefilled_validate_eq (p : TxValidate.Profile) (x : Wire.PrefilledTx) :
    Wire.prefilledValidate x = TxValidate.payloadTxWith .repaired p (Conv.toVTx x.tx) := by
  simp only [Wire.prefilledValidate, TxValidate.payloadTxWith, Conv.toVTx, List.isEmpty_map, Wire.badData]
  by_cases a : x.tx.inputs.isEmpty
  · simp [a]
  · by_cases b : x.tx.outputs.isEmpty
    · simp [a, b]
    · simp only [a, b, if_false, Bool.false_eq_true, TxValidate.checkedSum]
      rw [← Compose_sumOutputs_eq p x.tx.outputs 0 (by decide) (by decide)]
      cases Wire.sumOutputs x.tx.outputs 0 <;> simp

/-- **`Cmpctblock::validate`, modelled twice**: C05's `cmpctblockValidate` (run by the `cmpctblock`
    arm of `read_partial`) is C04's repaired `cmpctblockValidate` on the prefilled transactions, for
    every compact block and both build profiles. -/
theorem Compose_cmpctblock_validate_eq (p : TxValidate.Profile) (c : Wire.Cmpctblock) :
    Wire.cmpctblockValidate c =
      TxValidate.cmpctblockValidate p (c.prefilledtxn.map fun x => Conv.toVTx x.tx) := by
  unfold Wire.cmpctblockValidate TxValidate.cmpctblockValidate TxValidate.cmpctblockValidateWith
  induction c.prefilledtxn with
  | nil => rfl
  | cons x xs ih =>
    simp only [Wire.allValidate, List.map_cons, TxValidate.payloadLoop, ← Compose_prefilled_validate_eq p x]
    cases Wire.prefilledValidate x with
    | ok u => simpa using ih
    | err e => simp
    | panic s => simp


/-! ### Merkle (C14) against the wire `merkleblock` (C05)

`CG.Model.Wire` has only the CODEC of `merkleblock` (fields, no hashing) and `CG.Model.Merkle` only
the tree functions over those fields: no function of the Rust code is modelled twice, so there is
nothing to equate.  What can be said is the composition: validating what was read back from the
wire is validating what was sent. -/

/-- `MerkleBlock::validate` on a C05 `merkleblock` value -/
def merkleBlockValidate (H : Bytes → Bytes) (mb : Wire.MerkleBlock) : Outcome (List Bytes) :=
  Merkle.validate H mb.totalTransactions mb.flags mb.hashes mb.header.merkleRoot

theorem Compose_merkleblock_wire_then_validate (H : Bytes → Bytes) (mb : Wire.MerkleBlock)
    (h : Wire.merkleBlockC.wf mb) :
    ((Wire.merkleBlockC.dec (Wire.merkleBlockC.enc mb)).bind fun p => merkleBlockValidate H p.1) =
      merkleBlockValidate H mb := by
  rw [CG.Props.C05.C05_merkleblock_dec_enc mb h]; rfl

/-- `decode_num` is modelled ONCE (`ScriptNum.decodeNum`; `Interp` and `PyGlue` import it).  The
    related decoders are coherent: C18's `decodeCombined` is total and equals the sign-magnitude
    value (`decodeBig` = the reference `ScriptSem.value`) on EVERY byte string; `decodeNum` returns
    that same value wherever it succeeds, and succeeds on every string of at most 4 bytes. -/
theorem Compose_script_number_decoders_agree (s : Bytes) :
    PyGlue.decodeCombined s = .ok (ScriptNum.decodeBig s) ∧
    ScriptNum.decodeBig s = CG.Spec.ScriptSem.value s ∧
    (s.length ≤ 4 → ScriptNum.decodeNum s = .ok (ScriptNum.decodeBig s)) ∧
    (∀ v, ScriptNum.decodeNum s = .ok v → v = ScriptNum.decodeBig s) := by
  refine ⟨?_, CG.Proofs.ScriptNum.decodeBig_eq_value s, CG.Proofs.ScriptNum.decodeNum_small s, ?_⟩
  · unfold PyGlue.decodeCombined
    split
    · exact CG.Proofs.ScriptNum.decodeNum_small s (by assumption)
    · rfl
  · intro v hv
    by_cases hl : s.length ≤ 4
    · rw [CG.Proofs.ScriptNum.decodeNum_small s hl] at hv; injection hv with hv; exact hv.symm
    · unfold ScriptNum.decodeNum at hv
      unfold ScriptNum.decodeBig
      cases hlast : s.getLast? with
      | none => simp [hlast] at hv; exact hv.symm
      | some last =>
        simp only [hlast, hl, if_false] at hv ⊢
        split at hv
        · simp at hv
        · rename_i hz
          split at hv
          · simp at hv
          · rename_i hc
            injection hv with hv
            subst hv
            -- bytes 4 .. len-2 and the sign-cleared last byte are zero: only the first four count
            have e1 : s.dropLast.take 4 = s.take 4 := by
              rw [List.dropLast_eq_take, List.take_take]
              congr 1; omega
            have e2 : leToNat (s.dropLast.drop 4 ++ [ScriptNum.clearSign last]) = 0 := by
              rw [CG.leToNat_eq_zero_iff]
              simpa [or_imp, forall_and] using And.intro hz hc
            rw [← List.take_append_drop 4 s.dropLast, List.append_assoc, leToNat_append, e2, e1]
            rfl

/-- the two decoders are different Rust functions and differ above 4 bytes: `decode_num` refuses
    what `decode_number_combined` reads as `2^32` -/
example : ScriptNum.decodeNum [0, 0, 0, 0, 1] = .err "ScriptError" ∧
    PyGlue.decodeCombined [0, 0, 0, 0, 1] = .ok 4294967296 := by decide

/-! ## Non-vacuity -/

example : Msg.InRange (.ping ⟨7⟩) := by
  unfold Msg.InRange
  simp only [entryOf, ePing]
  decide
example : Msg.InRange .verack := by
  unfold Msg.InRange
  simp only [entryOf, eVerack]

def toyH (x : Bytes) : Bytes := UInt8.ofNat x.length :: List.replicate 31 7

example : ∀ x, (toyH x).length = 32 := fun x => by simp [toyH]

/-- the first 30 bytes of a `ping` are a truncated message -/
example : TruncatedMessage toyH [1, 2, 3, 4] ((wireBytes toyH [1, 2, 3, 4] (.ping ⟨7⟩)).take 30) :=
  have hr : Msg.InRange (.ping ⟨7⟩) := by
    unfold Msg.InRange
    simp only [entryOf, ePing]
    decide
  Or.inr ⟨.ping ⟨7⟩, (wireBytes toyH [1, 2, 3, 4] (.ping ⟨7⟩)).drop 30, hr, by decide,
    List.take_append_drop _ _⟩

/-- `verack`, `ping 7`, then 30 bytes of another ping, delivered as 5 bytes, a timeout, 1 byte, a
    would-block, 30, 2, 2 bytes, a timeout, then the rest: both messages, then `disconnected` —
    the model computes what the theorem says. -/
example :
    recvLoop (realCfg toyH [1, 2, 3, 4]) 40
      (LoopState.init ([Msg.verack, .ping ⟨7⟩].flatMap (wireBytes toyH [1, 2, 3, 4]) ++
        (wireBytes toyH [1, 2, 3, 4] (.ping ⟨7⟩)).take 30) [5, 0, 1, 0, 30, 2, 2, 0]) =
      ([.verack, .ping ⟨7⟩], .stopped DISCONNECTED) := by
  decide +kernel

example : Wire.txC.wf CG.Props.C05.sampleTx := by decide
example : TxSer.serTx (Conv.serTx CG.Props.C05.sampleTx) = Wire.txC.enc CG.Props.C05.sampleTx := by decide

end CG.Props.Compose
