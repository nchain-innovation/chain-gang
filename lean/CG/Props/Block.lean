import CG.Model.Block
import CG.Props.C14
import CG.Generated.Tables
/-!
# `Block::validate`, `Block::inputs`, rule-set selection — property theorems

Model: `CG.Model.Block`.  Registered under C14 (whose first clause is about `Block::validate`'s root
check) and composed with it: the whole of `Block::validate` is characterised, for every block, height
and network, with `Tx::validate` as an arbitrary function of the two rule flags (C04's subject).
-/
namespace CG.Props.Block
open CG CG.Model.Block
open CG.Model.Merkle (blockRootCheck)

def coinbases (ci : Nat) (txs : List BTx) : Nat := (txs.filter (isCoinbase ci)).length

theorem coinbases_cons (ci : Nat) (t : BTx) (ts : List BTx) :
    coinbases ci (t :: ts) = coinbases ci ts + if isCoinbase ci t then 1 else 0 := by
  unfold coinbases
  rw [List.filter_cons]
  split <;> rfl

theorem txLoop_ok_iff (ci : Nat) (f g : Bool) (txs : List BTx) (has : Bool) :
    txLoop ci f g txs has = .ok () ↔
      coinbases ci txs + (if has then 1 else 0) = 1 ∧
      ∀ t ∈ txs, isCoinbase ci t = false → t.verdict f g = none := by
  induction txs generalizing has with
  | nil => cases has <;> simp [txLoop, coinbases]
  | cons t ts ih =>
    rw [txLoop, coinbases_cons, List.forall_mem_cons]
    cases hc : isCoinbase ci t with
    | true =>
      -- a coinbase: a second one is refused, the first one is remembered
      cases has with
      | true => simp
      | false => simp [ih true]
    | false =>
      cases hv : t.verdict f g with
      | some e => simp
      | none => simp [ih has]

/-- **`Block::validate` characterised.**  For every block, height, network and `Tx::validate` behaviour:
    the block is accepted exactly when the root check passes (C14: there is at least one transaction and
    the header carries the Bitcoin Merkle root of the transaction ids), exactly ONE transaction is a
    coinbase (at any position), and every other transaction validates under the rule flags selected by
    network and height. -/
theorem Block_validate_iff (H : Heights) (ci : Nat) (height : Int) (n : Network) (rc : Outcome Unit)
    (txs : List BTx) :
    validate H ci height n rc txs = .ok () ↔
      rc = .ok () ∧ coinbases ci txs = 1 ∧
      ∀ t ∈ txs, isCoinbase ci t = false →
        t.verdict (requireForkid H n height) (useGenesis H n height) = none := by
  unfold validate
  cases rc with
  | ok u =>
    simp only [txLoop_ok_iff, Bool.false_eq_true, if_false, Nat.add_zero, true_and]
  | err e => simp
  | panic s => simp

/-- … composed with C14: acceptance implies the header's root is the Bitcoin Merkle root. -/
theorem Block_validate_accepts_only_merkle_root (Hs : Heights) (ci : Nat) (height : Int) (n : Network)
    (H : Bytes → Bytes) (txids : List Bytes) (headerRoot : Bytes) (txs : List BTx)
    (h : validate Hs ci height n (blockRootCheck H txids headerRoot) txs = .ok ()) :
    Spec.Bip37.merkleRoot H txids = some headerRoot ∧ coinbases ci txs = 1 := by
  obtain ⟨hrc, hcb, _⟩ := (Block_validate_iff Hs ci height n _ txs).mp h
  rw [CG.Props.C14.C14_block_root_check] at hrc
  split at hrc
  · exact ⟨‹_›, hcb⟩
  · cases hrc

theorem txLoop_no_panic (ci : Nat) (f g : Bool) (txs : List BTx) (has : Bool) (s : String) :
    txLoop ci f g txs has ≠ .panic s := by
  induction txs generalizing has with
  | nil => cases has <;> simp [txLoop]
  | cons t ts ih =>
    rw [txLoop]
    cases isCoinbase ci t with
    | true => cases has <;> simp [ih true]
    | false => cases t.verdict f g <;> simp [ih has]

/-- **`Block::validate` never panics** (given that the root check does not — C14). -/
theorem Block_validate_total (H : Heights) (ci : Nat) (height : Int) (n : Network) (rc : Outcome Unit)
    (txs : List BTx) (hrc : ∀ s, rc ≠ .panic s) :
    (∀ s, validate H ci height n rc txs ≠ .panic s) := by
  intro s
  unfold validate
  cases rc with
  | ok u => exact txLoop_no_panic ci _ _ txs false s
  | err e => simp
  | panic s' => exact absurd rfl (hrc s')

theorem txLoop_err_source (ci : Nat) (f g : Bool) (txs : List BTx) (has : Bool) (e : String)
    (h : txLoop ci f g txs has = .err e) :
    e = "BadData:No coinbase" ∨ e = "BadData:Multiple coinbases" ∨
    ∃ t ∈ txs, isCoinbase ci t = false ∧ t.verdict f g = some e := by
  induction txs generalizing has with
  | nil =>
    cases has <;> simp [txLoop] at h
    exact Or.inl h.symm
  | cons t ts ih =>
    simp only [txLoop] at h
    split at h
    · rename_i hc
      have hc' : isCoinbase ci t = false := by simpa using hc
      split at h
      · rename_i e' hv
        cases h
        exact Or.inr (Or.inr ⟨t, List.mem_cons_self, hc', hv⟩)
      · exact (ih has h).imp_right (Or.imp_right fun ⟨u, hu, h2⟩ => ⟨u, List.mem_cons_of_mem _ hu, h2⟩)
    · split at h
      · cases h
        exact Or.inr (Or.inl rfl)
      · exact (ih true h).imp_right (Or.imp_right fun ⟨u, hu, h2⟩ => ⟨u, List.mem_cons_of_mem _ hu, h2⟩)

/-- Once the root check has passed, every rejection is "No coinbase", "Multiple coinbases", or the error
    `Tx::validate` returned for a non-coinbase transaction of the block. -/
theorem Block_validate_error_sources (H : Heights) (ci : Nat) (height : Int) (n : Network)
    (txs : List BTx) (e : String) (h : validate H ci height n (.ok ()) txs = .err e) :
    e = "BadData:No coinbase" ∨ e = "BadData:Multiple coinbases" ∨
    ∃ t ∈ txs, isCoinbase ci t = false ∧
      t.verdict (requireForkid H n height) (useGenesis H n height) = some e :=
  txLoop_err_source ci _ _ txs false e h

/-- the activation heights of the tree under test (regenerated on every run) -/
def treeHeights : Heights :=
  ⟨Generated.C14_BCH_FORK_HEIGHT_MAINNET, Generated.C14_BCH_FORK_HEIGHT_TESTNET,
   Generated.C14_GENESIS_HEIGHT_MAINNET, Generated.C14_GENESIS_HEIGHT_TESTNET⟩

/-- the tree's constants are the published activation heights (UAHF 478 558 / 1 155 875; Genesis
    620 538 / 1 344 302) and the coinbase index is `0xffffffff` -/
theorem Block_heights_table :
    treeHeights = ⟨478558, 1155875, 620538, 1344302⟩ ∧ Generated.C14_COINBASE_INDEX = 0xffffffff := by
  decide

theorem requireForkid_mono (H : Heights) (n : Network) {h h' : Int} (hle : h ≤ h')
    (hr : requireForkid H n h = true) : requireForkid H n h' = true := by
  -- on each network the flag is a constant or `decide (activation ≤ h)`
  cases n <;> simp only [requireForkid, decide_eq_true_eq] at hr ⊢ <;> omega

theorem useGenesis_mono (H : Heights) (n : Network) {h h' : Int} (hle : h ≤ h')
    (hr : useGenesis H n h = true) : useGenesis H n h' = true := by
  cases n <;> simp only [useGenesis, decide_eq_true_eq] at hr ⊢ <;> omega

theorem requireForkid_of_useGenesis (H : Heights) (hm : H.bchForkMainnet ≤ H.genesisMainnet)
    (ht : H.bchForkTestnet ≤ H.genesisTestnet) (n : Network) {h : Int}
    (hr : useGenesis H n h = true) : requireForkid H n h = true := by
  cases n <;> simp [useGenesis, requireForkid] at hr ⊢ <;> omega

/-- **Rule-set selection is monotone in the height and ordered**: once required, FORKID stays required;
    once active, the Genesis rules stay active; Genesis rules are never selected without FORKID being
    required; BTC never requires FORKID and only BSV networks ever use Genesis rules; the STN always
    uses both. -/
theorem Block_rule_selection (n : Network) (h h' : Int) (hle : h ≤ h') :
    (requireForkid treeHeights n h = true → requireForkid treeHeights n h' = true) ∧
    (useGenesis treeHeights n h = true → useGenesis treeHeights n h' = true) ∧
    (useGenesis treeHeights n h = true → requireForkid treeHeights n h = true) ∧
    requireForkid treeHeights .btcMainnet h = false ∧ requireForkid treeHeights .btcTestnet h = false ∧
    useGenesis treeHeights .bchMainnet h = false ∧ useGenesis treeHeights .bchTestnet h = false ∧
    requireForkid treeHeights .bsvStn h = true ∧ useGenesis treeHeights .bsvStn h = true :=
  ⟨requireForkid_mono _ n hle, useGenesis_mono _ n hle,
    requireForkid_of_useGenesis _ (by decide) (by decide) n, rfl, rfl, rfl, rfl, rfl, rfl⟩

theorem foldl_addStep_none (l : List OutPoint) : l.foldl addStep none = none := by
  induction l with
  | nil => rfl
  | cons a r ih => simpa [addStep] using ih

theorem addInputs_spec (l seen : List OutPoint) (hs : seen.Nodup) :
    addInputs seen l = if (seen ++ l).Nodup then some (seen ++ l) else none := by
  unfold addInputs
  induction l generalizing seen with
  | nil => simp [hs]
  | cons a r ih =>
    rw [List.foldl_cons, addStep, List.append_cons seen a r]
    by_cases hc : seen.contains a = true
    · have hnd : ¬ (seen ++ [a] ++ r).Nodup := fun h =>
        (List.nodup_append.mp (List.nodup_append.mp h).1).2.2 a (List.contains_iff_mem.mp hc) a
          (List.mem_singleton_self a) rfl
      rw [if_pos hc, foldl_addStep_none, if_neg hnd]
    · have hsa : (seen ++ [a]).Nodup :=
        List.nodup_append.mpr ⟨hs, List.pairwise_singleton _ a, fun x hx y hy e =>
          hc (List.contains_iff_mem.mpr (List.mem_singleton.mp hy ▸ e ▸ hx))⟩
      rw [if_neg hc, ih _ hsa]

def spent (ci : Nat) (txs : List BTx) : List OutPoint :=
  (txs.filter (fun t => !isCoinbase ci t)).flatMap (·.inputs)

theorem spent_cons (ci : Nat) (t : BTx) (ts : List BTx) :
    spent ci (t :: ts) = (if isCoinbase ci t then [] else t.inputs) ++ spent ci ts := by
  unfold spent
  cases h : isCoinbase ci t <;> simp [h]

theorem inputsLoop_spec (ci : Nat) (txs : List BTx) (seen : List OutPoint) (hs : seen.Nodup) :
    inputsLoop ci txs seen =
      if (seen ++ spent ci txs).Nodup then .ok (seen ++ spent ci txs) else .err "BadData:Input double spent" := by
  induction txs generalizing seen with
  | nil => simp [inputsLoop, spent, hs]
  | cons t ts ih =>
    rw [inputsLoop, spent_cons]
    by_cases hc : isCoinbase ci t = true
    · rw [if_pos hc, if_pos hc, List.nil_append]
      exact ih seen hs
    · rw [if_neg hc, if_neg hc, addInputs_spec _ _ hs, ← List.append_assoc]
      by_cases h1 : (seen ++ t.inputs).Nodup
      · rw [if_pos h1]
        exact ih _ h1
      · rw [if_neg h1, if_neg fun h => h1 (List.nodup_append.mp h).1]

/-- **`Block::inputs` = "no outpoint is spent twice within the block"**: it returns the outpoints spent by
    the non-coinbase transactions, in order, exactly when they are pairwise distinct, and
    `BadData("Input double spent")` otherwise — across transactions and within one. -/
theorem Block_inputs_spec (ci : Nat) (txs : List BTx) :
    inputs ci txs =
      if (spent ci txs).Nodup then .ok (spent ci txs) else .err "BadData:Input double spent" := by
  have := inputsLoop_spec ci txs [] List.nodup_nil
  simpa [inputs] using this

/-! Non-vacuity -/
def cb : BTx := ⟨[⟨List.replicate 32 0, 0xffffffff⟩], fun _ _ => some "never asked"⟩
def okTx (k : Nat) : BTx := ⟨[⟨List.replicate 32 7, k⟩], fun _ _ => none⟩
def genesisOnly : BTx := ⟨[⟨List.replicate 32 7, 9⟩], fun _ g => if g then none else some "ScriptError"⟩

example : validate treeHeights 0xffffffff 700000 .bsvMainnet (.ok ()) [okTx 1, cb, genesisOnly] = .ok () := by decide
example : validate treeHeights 0xffffffff 600000 .bsvMainnet (.ok ()) [okTx 1, cb, genesisOnly] = .err "ScriptError" := by decide
example : validate treeHeights 0xffffffff 700000 .bchMainnet (.ok ()) [cb, genesisOnly] = .err "ScriptError" := by decide
example : validate treeHeights 0xffffffff 1 .bsvMainnet (.ok ()) [cb, cb] = .err "BadData:Multiple coinbases" := by decide
example : inputs 0xffffffff [cb, okTx 1, okTx 2] = .ok [⟨List.replicate 32 7, 1⟩, ⟨List.replicate 32 7, 2⟩] := by decide
example : inputs 0xffffffff [okTx 1, cb, okTx 1] = .err "BadData:Input double spent" := by decide

end CG.Props.Block
