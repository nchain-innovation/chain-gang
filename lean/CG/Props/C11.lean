import CG.Proofs.Framing
import CG.Generated.Tables
/-!
# C11 — Message reassembly is independent of transport fragmentation

Property theorems only.  Model: `CG.Model.AtomicReader` (`AtomicReader::read`, `read_exact`) and
`CG.Model.Framing` (`MessageHeader::read/validate/payload`, `Message::read/read_partial`, the
receive loop of `Peer::connect_internal`).  Reference: `CG.Spec.Reassembly` — what a receiver
handed the whole byte stream at once obtains; it has no reader, schedule or buffer.

The transport is a byte stream plus a per-call schedule (`0` = TimedOut/WouldBlock, otherwise the
number of bytes the call may return, end of stream when the bytes are used up), so the theorems
quantify over every fragmentation, every placement of timeouts and every end-of-stream offset.
The hash and the payload codecs are parameters (`Cfg.H`, `Cfg.decode`).  Unbounded in the number
of frames, their sizes and the length of the schedule.
-/
namespace CG.Props.C11
open CG CG.Model.AtomicReader CG.Model.Framing CG.Proofs.Framing
open CG.Spec.Reassembly (Frame expected streamOf StrictFramePrefix parseAll step)

variable {Msg : Type}

/-- bytes handed to the caller by one `AtomicReader::read` -/
def delivered : AR → Bytes
  | .full bs => bs
  | _ => []

/-- **Reader invariant.** Whatever a read call returns and whatever the schedule, the bytes
    handed out followed by `retained ++ undelivered` afterwards are `retained ++ undelivered`
    before: nothing is dropped, duplicated or reordered inside the reader. -/
theorem C11_areader_inv (r : Rd) (n : Nat) (res : AR) (r' : Rd) (h : aread r n = (res, r')) :
    delivered res ++ pending r' = pending r := by
  have hs := aread_spec r n
  rw [h] at hs
  cases res with
  | full bs => exact hs.2.1
  | timedOut => exact hs.1
  | disconnected => exact hs.1

/-- **All or nothing.** A read of `n` bytes either returns exactly the next `n` bytes of the
    unread stream and removes exactly those, or returns no bytes (TimedOut / NotConnected) and
    leaves the unread stream as it was; NotConnected only when fewer than `n` bytes are left
    and the transport is at end of stream. -/
theorem C11_read_all_or_nothing (r : Rd) (n : Nat) (res : AR) (r' : Rd) (h : aread r n = (res, r')) :
    (∃ bs, res = .full bs ∧ bs.length = n ∧ bs = (pending r).take n ∧ pending r' = (pending r).drop n) ∨
    (res = .timedOut ∧ pending r' = pending r) ∨
    (res = .disconnected ∧ pending r' = pending r ∧ (pending r).length < n) := by
  have hs := aread_spec r n
  rw [h] at hs
  cases res with
  | full bs =>
    refine Or.inl ⟨bs, rfl, hs.1, ?_, ?_⟩
    · rw [← hs.2.1, List.take_left' hs.1]
    · rw [← hs.2.1, List.drop_left' hs.1]
  | timedOut => exact Or.inr (Or.inl ⟨rfl, hs.1⟩)
  | disconnected => exact Or.inr (Or.inr ⟨rfl, hs.1, hs.2.1⟩)

/-- any sequence of read calls with request sizes `ns` -/
def areadMany (r : Rd) : List Nat → List AR × Rd
  | [] => ([], r)
  | n :: ns =>
    let (res, r') := aread r n
    let (rs, r'') := areadMany r' ns
    (res :: rs, r'')

/-- **Stream transparency.** Through any sequence of reads under any schedule, the bytes
    returned, in order, followed by what the reader still holds or has not yet received, are the
    stream. -/
theorem C11_stream_transparent (stream : Bytes) (sched : List Nat) (ns : List Nat) :
    ((areadMany (Rd.new ⟨stream, sched⟩) ns).1.flatMap delivered) ++
      pending (areadMany (Rd.new ⟨stream, sched⟩) ns).2 = stream := by
  have key (r : Rd) :
      ((areadMany r ns).1.flatMap delivered) ++ pending (areadMany r ns).2 = pending r := by
    induction ns generalizing r with
    | nil => rfl
    | cons n ns ih =>
      simp only [areadMany, List.flatMap_cons, List.append_assoc]
      rw [ih, C11_areader_inv r n (aread r n).1 (aread r n).2 rfl]
  simpa [pending, Rd.new] using key (Rd.new ⟨stream, sched⟩)

/-- **Refinement of contiguous delivery.** For every byte stream (valid, truncated or corrupted),
    every schedule and every number of passes, the messages the loop has emitted are a prefix of
    the messages a receiver given the whole stream at once obtains; and if the loop has stopped, it
    emitted exactly those messages and stopped with exactly that error. -/
theorem C11_refines_contiguous (c : Cfg Msg) (stream : Bytes) (sched : List Nat) (fuel : Nat) :
    (recvLoop c fuel (LoopState.init stream sched)).1 <+: (parseAll (toWire c) stream).1 ∧
    ∀ e, (recvLoop c fuel (LoopState.init stream sched)).2 = .stopped e →
      recvLoop c fuel (LoopState.init stream sched) =
        ((parseAll (toWire c) stream).1, .stopped (parseAll (toWire c) stream).2) := by
  have h := loop_spec c fuel (LoopState.init stream sched)
  rw [refOf_init] at h
  exact ⟨h.1, h.2.1⟩

/-- **Termination.** The loop cannot wait for ever on a finite schedule: after more passes than
    schedule entries + stream bytes + messages it has stopped. -/
theorem C11_terminates (c : Cfg Msg) (stream : Bytes) (sched : List Nat) (fuel : Nat)
    (hf : sched.length + stream.length + (parseAll (toWire c) stream).1.length < fuel) :
    (recvLoop c fuel (LoopState.init stream sched)).2 ≠ .waiting := by
  have h := (loop_spec c fuel (LoopState.init stream sched)).2.2
  rw [refOf_init] at h
  exact h (by simpa [mu, LoopState.init, Rd.new] using hf)

/-- **Fragmentation independence, any stream.** Two runs over the same bytes under any two
    schedules that have both stopped produced the same messages and the same final error —
    including streams that are truncated or corrupted. -/
theorem C11_independent_any_stream (c : Cfg Msg) (stream : Bytes) (s1 s2 : List Nat) (f1 f2 : Nat)
    (e1 e2 : String)
    (h1 : (recvLoop c f1 (LoopState.init stream s1)).2 = .stopped e1)
    (h2 : (recvLoop c f2 (LoopState.init stream s2)).2 = .stopped e2) :
    recvLoop c f1 (LoopState.init stream s1) = recvLoop c f2 (LoopState.init stream s2) := by
  rw [(C11_refines_contiguous c stream s1 f1).2 e1 h1, (C11_refines_contiguous c stream s2 f2).2 e2 h2]

/-- **Prefix.** For every list of valid frames followed by a strict prefix of a frame, every
    schedule and every amount of fuel, the emitted messages are a prefix of the frames' messages
    in order: nothing lost, duplicated, reordered or corrupted, nothing from the incomplete tail. -/
theorem C11_prefix (c : Cfg Msg) (hw : (toWire c).WF) (frames : List Frame)
    (hv : ∀ f ∈ frames, Frame.Valid (toWire c) f) (tail : Bytes)
    (ht : StrictFramePrefix (toWire c) tail) (sched : List Nat) (fuel : Nat) :
    (recvLoop c fuel (LoopState.init (streamOf (toWire c) frames ++ tail) sched)).1
      <+: expected (toWire c) frames := by
  have h := (C11_refines_contiguous c (streamOf (toWire c) frames ++ tail) sched fuel).1
  rwa [parseAll_frames_prefix hw frames hv ht] at h

/-- **Completeness.** With enough passes for the schedule (every finite schedule delivers the
    whole stream: when it is used up the transport hands over whatever is asked), the loop emits
    every frame's message and ends in `disconnected` at end of stream. -/
theorem C11_complete (c : Cfg Msg) (hw : (toWire c).WF) (frames : List Frame)
    (hv : ∀ f ∈ frames, Frame.Valid (toWire c) f) (tail : Bytes)
    (ht : StrictFramePrefix (toWire c) tail) (sched : List Nat) (fuel : Nat)
    (hf : sched.length + (streamOf (toWire c) frames ++ tail).length + frames.length < fuel) :
    recvLoop c fuel (LoopState.init (streamOf (toWire c) frames ++ tail) sched) =
      (expected (toWire c) frames, .stopped DISCONNECTED) := by
  have hp := parseAll_frames_prefix hw frames hv ht
  rw [loop_complete c _ sched fuel (by rw [hp]; simpa [expected_length frames hv] using hf), hp]
  rfl

/-- **End of stream is a disconnection, never a message.** On frames followed by an incomplete
    frame the loop can only be still waiting or have stopped with `NotConnected`; when it has
    stopped the emitted messages are exactly those of the complete frames. -/
theorem C11_eof_is_disconnect (c : Cfg Msg) (hw : (toWire c).WF) (frames : List Frame)
    (hv : ∀ f ∈ frames, Frame.Valid (toWire c) f) (tail : Bytes)
    (ht : StrictFramePrefix (toWire c) tail) (sched : List Nat) (fuel : Nat) :
    (recvLoop c fuel (LoopState.init (streamOf (toWire c) frames ++ tail) sched)).2 = .waiting ∨
    recvLoop c fuel (LoopState.init (streamOf (toWire c) frames ++ tail) sched) =
      (expected (toWire c) frames, .stopped DISCONNECTED) := by
  cases hfin : (recvLoop c fuel (LoopState.init (streamOf (toWire c) frames ++ tail) sched)).2 with
  | waiting => exact Or.inl rfl
  | stopped e =>
    right
    rw [(C11_refines_contiguous c _ sched fuel).2 e hfin, parseAll_frames_prefix hw frames hv ht]; rfl

/-- **Fragmentation independence.** Any two schedules (given enough passes each) yield the same
    messages in the same order and the same final state. -/
theorem C11_fragmentation_independent (c : Cfg Msg) (hw : (toWire c).WF) (frames : List Frame)
    (hv : ∀ f ∈ frames, Frame.Valid (toWire c) f) (tail : Bytes)
    (ht : StrictFramePrefix (toWire c) tail) (s1 s2 : List Nat) (f1 f2 : Nat)
    (h1 : s1.length + (streamOf (toWire c) frames ++ tail).length + frames.length < f1)
    (h2 : s2.length + (streamOf (toWire c) frames ++ tail).length + frames.length < f2) :
    recvLoop c f1 (LoopState.init (streamOf (toWire c) frames ++ tail) s1) =
    recvLoop c f2 (LoopState.init (streamOf (toWire c) frames ++ tail) s2) := by
  rw [C11_complete c hw frames hv tail ht s1 f1 h1, C11_complete c hw frames hv tail ht s2 f2 h2]

/-- **Error path.** If what follows the valid frames does not begin with a message (bad magic,
    oversize length, bad checksum, a payload the codec rejects, …: the reference stops there with
    `e`), the loop never emits anything beyond the valid frames, and when it stops it stops with
    that error. -/
theorem C11_stops_at_first_non_message (c : Cfg Msg) (hw : (toWire c).WF) (frames : List Frame)
    (hv : ∀ f ∈ frames, Frame.Valid (toWire c) f) (junk : Bytes) (e : String)
    (hj : step (toWire c) junk = .stop e) (sched : List Nat) (fuel : Nat) :
    (recvLoop c fuel (LoopState.init (streamOf (toWire c) frames ++ junk) sched)).1
      <+: expected (toWire c) frames ∧
    ∀ e', (recvLoop c fuel (LoopState.init (streamOf (toWire c) frames ++ junk) sched)).2 = .stopped e' →
      e' = e := by
  have h := C11_refines_contiguous c (streamOf (toWire c) frames ++ junk) sched fuel
  rw [parseAll_frames hw frames hv junk, parseAll_stop hj] at h
  refine ⟨by simpa using h.1, fun e' he => ?_⟩
  exact Final.stopped.inj (he.symm.trans (congrArg Prod.snd (h.2 e' he)))

/-- **Frames built with a lawful codec.** If `decode c (encode m) = ok m` (the law proved for
    the real codecs under C05), the frames a sender builds from messages are valid and carry
    exactly those messages. -/
theorem C11_encoded_frames_valid (c : Cfg Msg) (cmdOf : Msg → Bytes) (encode : Msg → Bytes)
    (hk : ∀ m, c.kind (cmdOf m) = .payload) (hc : ∀ m, (cmdOf m).length = 12)
    (hs : ∀ m, (encode m).length ≤ c.maxPayload) (hmax : c.maxPayload < 2 ^ 32)
    (law : ∀ m, c.decode (cmdOf m) (encode m) = .ok m) (ms : List Msg) :
    (∀ f ∈ ms.map (fun m => (⟨cmdOf m, encode m⟩ : Frame)), Frame.Valid (toWire c) f) ∧
    expected (toWire c) (ms.map (fun m => (⟨cmdOf m, encode m⟩ : Frame))) = ms := by
  have hm : ∀ m, Frame.msg? (toWire c) ⟨cmdOf m, encode m⟩ = some m := by
    intro m
    simp [Frame.msg?, toWire, hk m, toKind, law m]
  constructor
  · intro f hf
    simp only [List.mem_map] at hf
    obtain ⟨m, _, rfl⟩ := hf
    have hlt : (encode m).length < 2 ^ 32 := Nat.lt_of_le_of_lt (hs m) hmax
    exact
      { cmdLen := hc m
        size32 := hlt
        sizeOk := Or.inr (hs m)
        bareEmpty := by simp [toWire, hk m, toKind]
        decodes := by simp [hm m] }
  · simp [expected, List.filterMap_map, Function.comp_def, hm]

/-! ## Non-vacuity: the hypotheses are satisfiable, and the model computes -/

/-- a toy configuration: messages are (command, payload); the "hash" is a 4-byte length tag -/
def toyCfg : Cfg (Bytes × Bytes) :=
  { magic := [1, 2, 3, 4], maxPayload := 1000, blockCmd := List.replicate 12 9,
    H := fun p => [UInt8.ofNat p.length, 7, 7, 7],
    kind := fun c => if c = List.replicate 12 1 then .bare else if c = List.replicate 12 2 then .payload else .other,
    decode := fun c p => .ok (c, p), bare := fun c => (c, []), other := fun c => (c, []) }

def toyBare : Frame := ⟨List.replicate 12 1, []⟩
def toyPing : Frame := ⟨List.replicate 12 2, [10, 11, 12, 13, 14]⟩

example : (toWire toyCfg).WF := ⟨rfl, fun _ => by simp [toWire, toyCfg]⟩
example : Frame.Valid (toWire toyCfg) toyBare :=
  ⟨rfl, by simp [toyBare], Or.inr (by simp [toyBare]), fun _ => rfl, by decide⟩
example : Frame.Valid (toWire toyCfg) toyPing :=
  ⟨rfl, by simp [toyPing], Or.inr (by simp [toyPing, toWire, toyCfg]), by decide, by decide⟩
example : StrictFramePrefix (toWire toyCfg) ((toyPing.bytes (toWire toyCfg)).take 26) :=
  Or.inr ⟨toyPing, (toyPing.bytes (toWire toyCfg)).drop 26,
    ⟨rfl, by simp [toyPing], Or.inr (by simp [toyPing, toWire, toyCfg]), by decide, by decide⟩,
    by decide, List.take_append_drop _ _⟩

/-- two frames and 26 bytes of a third, delivered as 5 bytes, a timeout, 1 byte, a would-block,
    30, 2, 2 bytes, a timeout, then the rest: both messages, then `disconnected`. -/
example :
    recvLoop toyCfg 40
      (LoopState.init (streamOf (toWire toyCfg) [toyBare, toyPing] ++ (toyPing.bytes (toWire toyCfg)).take 26)
        [5, 0, 1, 0, 30, 2, 2, 0]) =
      ([(List.replicate 12 1, []), (List.replicate 12 2, [10, 11, 12, 13, 14])], .stopped DISCONNECTED) := by
  decide +kernel

/-- split a flat table into 12-byte commands (at most as many as the first argument says) -/
def chunks12 : Nat → List Nat → List (List Nat)
  | 0, _ => []
  | _, [] => []
  | fuel + 1, l => l.take 12 :: chunks12 fuel (l.drop 12)

def tableOk (l : List Nat) : Bool := l.length % 12 == 0 && l.all (· < 256)

/-- The header is 24 bytes in the current tree; the command tables read off `read_partial` are
    whole 12-byte commands, the payload-less and the payload-carrying commands are disjoint,
    `block` (exempt from the size limit) carries a payload, there are six payload-less commands,
    and the size limit fits the u32 length field. -/
theorem C11_tables_wf :
    HEADER_SIZE = CG.Generated.C11_HEADER_SIZE ∧
    tableOk CG.Generated.C11_CMDS_PAYLOAD = true ∧ tableOk CG.Generated.C11_CMDS_BARE = true ∧
    CG.Generated.C11_CMD_BLOCK.length = 12 ∧
    (chunks12 100 CG.Generated.C11_CMDS_BARE).all
      (fun c => !(chunks12 100 CG.Generated.C11_CMDS_PAYLOAD).contains c) = true ∧
    (chunks12 100 CG.Generated.C11_CMDS_PAYLOAD).contains CG.Generated.C11_CMD_BLOCK = true ∧
    (chunks12 100 CG.Generated.C11_CMDS_BARE).length = 6 ∧
    CG.Generated.MAX_PAYLOAD_SIZE < 2 ^ 32 := by
  decide +kernel

end CG.Props.C11
