import CG.Proofs.Sighash
import CG.Proofs.Subscript
import CG.Proofs.Bip143Inj
/-!
# C02 — Signature-hash digests conform to BIP-143/FORKID and legacy algorithms

Property theorems only.  Model: `CG.Model.Sighash` (+ `CG.Model.TxSer`), mirroring
`src/transaction/sighash.rs` and `wallet::create_sighash`; the double hash is the parameter `H`, the
cache is explicit state.  Specification: `CG.Spec.Bip143`, `CG.Spec.LegacySighash`.

The theorems about the *layout* (`C02_bip143_eq_spec`, `C02_legacy_eq_spec`) hold for every
transaction, index, amount in `Int64`, all 256 type bytes and every script code on which the sub-script
selections agree.  The selection itself (`extract_subscript`) is NOT correct for all script codes in the
pinned code: `C02_subscript_eq_spec_partial` proves it under explicit hypotheses and the witness
theorems refute the unrestricted statement (two known findings).  `legacyPreimage` is the model of the
tree with `C02-legacy-single-outputs.patch`; the pinned behaviour (`legacyPreimageWith false`) is refuted by
`C02_witness_pinned_legacy_single`.
-/
namespace CG.Props.C02
open CG CG.Model.TxSer CG.Model.Sighash CG.Proofs.Sighash CG.Proofs.Subscript
open CG.Spec.Bip143 (Op parseScript scriptCodeOps flatten)

/-- **BIP-143 layout**: for every transaction, input index (in range or not), amount in `Int64`, type
    byte, any valid cache state and any hash function: if the model's sub-script selection and the
    specification's script code agree (`sc`), the model's preimage is the specification's preimage and
    the digests are equal. -/
theorem C02_bip143_eq_spec (H : Bytes → Bytes) (tx : Tx) (n : Nat) (code : Bytes) (k : Nat) (sat : Int)
    (ty : UInt8) (c : Cache) (hc : CacheOk H tx c) (hsat : InI64 sat) (hout : AmountsInRange tx)
    (sc : Bytes) (hm : extractSubscript code k = .ok sc) (hs : Spec.Bip143.scriptCode code k = some sc) :
    (preimage H tx n code k sat ty c).1 = ofSpec (Spec.Bip143.preimage H tx n code k sat ty) ∧
    (bip143Sighash H tx n code k sat ty c).1 = ofSpec (Spec.Bip143.digest H tx n code k sat ty) := by
  have hspec : Spec.Bip143.preimage H tx n code k sat ty = Spec.Bip143.preimageOf H tx n sc sat ty := by
    unfold Spec.Bip143.preimage Spec.Bip143.preimageOf
    rw [hs]
    cases tx.inputs[n]? <;> rfl
  have hp : (preimage H tx n code k sat ty c).1 = ofSpec (Spec.Bip143.preimage H tx n code k sat ty) := by
    rw [(preimage_cache H tx n code k sat ty c hc).1, preimage_eq_specOf H tx n code k sat ty hsat hout sc hm, hspec]
  refine ⟨hp, ?_⟩
  rw [bip143Sighash_eq, hp, ofSpec_map]
  rfl

/-- **legacy layout**: likewise for the original algorithm (blanked scripts, zeroed sequences,
    truncated / nulled outputs, ANYONECANPAY), for any hash function. -/
theorem C02_legacy_eq_spec (H : Bytes → Bytes) (tx : Tx) (n : Nat) (code : Bytes) (k : Nat) (ty : UInt8)
    (hout : AmountsInRange tx) (sc : Bytes) (hm : extractSubscript code k = .ok sc)
    (hs : Spec.LegacySighash.scriptCode code k = some sc) :
    legacyPreimage tx n code k ty = ofSpec (Spec.LegacySighash.preimage tx n code k ty) ∧
    legacySighashWith true H tx n code k ty = ofSpec (Spec.LegacySighash.digest H tx n code k ty) := by
  have hspec : Spec.LegacySighash.preimage tx n code k ty = Spec.LegacySighash.preimageOf tx n sc ty := by
    unfold Spec.LegacySighash.preimage Spec.LegacySighash.preimageOf
    rw [hs]
    by_cases h : n < tx.inputs.length <;> simp [h]
  have hp := legacyPreimage_eq_specOf tx n code k ty hout sc hm
  rw [← hspec] at hp
  refine ⟨hp, ?_⟩
  unfold legacySighashWith Spec.LegacySighash.digest
  rw [← ofSpec_map]
  exact congrArg (Outcome.map H) hp

/-- the dispatching entry point `sighash_checksig_index`: FORKID bit set → BIP-143, otherwise legacy -/
theorem C02_sighash_eq_spec (H : Bytes → Bytes) (tx : Tx) (n : Nat) (code : Bytes) (k : Nat) (sat : Int)
    (ty : UInt8) (c : Cache) (hc : CacheOk H tx c) (hsat : InI64 sat) (hout : AmountsInRange tx)
    (sc : Bytes) (hm : extractSubscript code k = .ok sc)
    (hs : (if Spec.Bip143.forkId ty then Spec.Bip143.scriptCode code k
           else Spec.LegacySighash.scriptCode code k) = some sc) :
    (sighash H tx n code k sat ty c).1 =
      ofSpec (if Spec.Bip143.forkId ty then Spec.Bip143.digest H tx n code k sat ty
              else Spec.LegacySighash.digest H tx n code k ty) := by
  unfold sighash sighashWith
  simp only [forkid_iff]
  cases hf : Spec.Bip143.forkId ty <;> rw [hf] at hs
  · exact (C02_legacy_eq_spec H tx n code k ty hout sc hm hs).2
  · exact (C02_bip143_eq_spec H tx n code k sat ty c hc hsat hout sc hm hs).2

/-- **an out-of-range input index is an error** — for every entry point, cache and flag; the cache is
    left untouched. -/
theorem C02_oob_index_is_error (H : Bytes → Bytes) (tx : Tx) (n : Nat) (code : Bytes) (k : Nat) (sat : Int)
    (ty : UInt8) (c : Cache) (h : tx.inputs.length ≤ n) :
    preimage H tx n code k sat ty c = (.err "BadArgument", c) ∧
    sighash H tx n code k sat ty c = (.err "BadArgument", c) ∧
    Spec.Bip143.preimage H tx n code k sat ty = none ∧
    Spec.LegacySighash.preimage tx n code k ty = none := by
  have hp := preimage_oob H tx n code k sat ty c h
  refine ⟨hp, ?_, ?_, ?_⟩
  · unfold sighash sighashWith bip143Sighash legacySighashWith
    rw [hp, legacy_oob true tx n code k ty h]
    split <;> rfl
  · unfold Spec.Bip143.preimage
    rw [List.getElem?_eq_none h]
  · unfold Spec.LegacySighash.preimage
    have : ¬ n < tx.inputs.length := by omega
    simp [this]

/-- **cache transparency**: for any LIST of requests (any mix of preimage / digest / wallet calls, any
    flags, indexes, script codes, amounts) against one transaction sharing one cache, every answer
    equals the fresh computation. -/
theorem C02_cache_transparent (H : Bytes → Bytes) (tx : Tx) (reqs : List Req) :
    (run H tx Cache.empty reqs).2 = reqs.map (fun r => (answer H tx Cache.empty r).2) :=
  (run_cache true H tx reqs Cache.empty (cacheOk_empty H tx)).1

/-- the invariant behind it: a valid cache stays valid through any request list, and answers do not
    depend on which valid cache the sequence starts from -/
theorem C02_cache_invariant (H : Bytes → Bytes) (tx : Tx) (reqs : List Req) (c : Cache) (hc : CacheOk H tx c) :
    (run H tx c reqs).2 = (run H tx Cache.empty reqs).2 ∧ CacheOk H tx (run H tx c reqs).1 := by
  obtain ⟨h1, h2⟩ := run_cache true H tx reqs c hc
  exact ⟨h1.trans (C02_cache_transparent H tx reqs).symm, h2⟩

/-- the full-strength statement — FALSE of the pinned code (witnesses below) -/
def C02_subscript_eq_spec : Prop :=
  ∀ (code : Bytes) (k : Nat) (sc : Bytes), Spec.LegacySighash.scriptCode code k = some sc →
    extractSubscript code k = .ok sc

/-- **partial**: the model's selection is the specification's legacy script code whenever
    (1) no byte of any push data / length prefix has the value 0xab or 0xac, and
    (2) the script does not have exactly one separator that is not its first operation (unless the
        selection is the whole script anyway).  No hypothesis on well-formedness: truncated pushes are
        cut identically by `next_op` and by the specification's parser. -/
theorem C02_subscript_eq_spec_partial (code : Bytes) (k : Nat) (sc : Bytes)
    (hs : Spec.LegacySighash.scriptCode code k = some sc)
    (hab : NoRaw OP_CODESEPARATOR (parseScript code)) (hac : NoRaw OP_CHECKSIG (parseScript code))
    (hsingle : ((parseScript code).filter Op.isSep).length = 1 →
      (∃ s t, parseScript code = s :: t ∧ s.isSep = true) ∨ scriptCodeOps code k = some (parseScript code)) :
    extractSubscript code k = .ok sc := by
  obtain ⟨sel, hsel, rfl⟩ := Option.map_eq_some_iff.mp hs
  rw [hsel] at hsingle
  exact extractSubscript_eq_spec code k sel hsel hab hac fun h1 => (hsingle h1).imp_right Option.some.inj

/-- under FORKID the same, for script codes inside the claim (no separator after the selected check) -/
theorem C02_subscript_eq_spec_partial_forkid (code : Bytes) (k : Nat) (sc : Bytes)
    (hs : Spec.Bip143.scriptCode code k = some sc) (hin : Spec.Bip143.outsideClaim code k = false)
    (hab : NoRaw OP_CODESEPARATOR (parseScript code)) (hac : NoRaw OP_CHECKSIG (parseScript code))
    (hsingle : ((parseScript code).filter Op.isSep).length = 1 →
      (∃ s t, parseScript code = s :: t ∧ s.isSep = true) ∨ scriptCodeOps code k = some (parseScript code)) :
    extractSubscript code k = .ok sc := by
  obtain ⟨sel, hsel, rfl⟩ := Option.map_eq_some_iff.mp hs
  apply C02_subscript_eq_spec_partial code k _ ?_ hab hac hsingle
  unfold Spec.Bip143.outsideClaim at hin
  rw [hsel] at hin
  -- no separator in the selection: the legacy script code removes nothing
  have := filter_notSep_of_free sel fun o ho => by simpa using List.any_eq_false.mp hin o ho
  unfold notSep at this
  rw [Spec.LegacySighash.scriptCode, hsel, Option.map_some, this]

/-- when the specification has no script code (separators and `OP_CHECKSIG`s exist but there is no
    `k`-th one) the model has none either: `BadArgument` -/
theorem C02_subscript_none (code : Bytes) (k : Nat) (hs : Spec.LegacySighash.scriptCode code k = none)
    (hab : NoRaw OP_CODESEPARATOR (parseScript code)) (hac : NoRaw OP_CHECKSIG (parseScript code)) :
    extractSubscript code k = .err "BadArgument" :=
  extractSubscript_none code k (Option.map_eq_none_iff.mp hs) hab hac

/-- no entry point panics, for any transaction, index, script code, check index, amount, type byte
    and cache (with the guarded `checksig_positions.len() - 1` of commit 0252e8b) -/
theorem C02_never_panics (H : Bytes → Bytes) (tx : Tx) (n : Nat) (code : Bytes) (k : Nat) (sat : Int)
    (ty : UInt8) (c : Cache) :
    (∀ s, extractSubscript code k ≠ .panic s) ∧
    (∀ s, (preimage H tx n code k sat ty c).1 ≠ .panic s) ∧
    (∀ s, (sighash H tx n code k sat ty c).1 ≠ .panic s) := by
  have hp := preimage_no_panic H tx n code k sat ty c
  refine ⟨extractSubscript_no_panic code k, hp, fun s => ?_⟩
  unfold sighash sighashWith
  split
  · rw [bip143Sighash_eq]
    exact Outcome.map_ne_panic hp s
  · exact Outcome.map_ne_panic (legacyPreimageWith_no_panic true tx n code k ty) s

/-- end to end under the partial hypotheses: the digest computed through any valid cache is the
    specification's digest, for every hash function -/
theorem C02_digest_eq_spec_partial (H : Bytes → Bytes) (tx : Tx) (n : Nat) (code : Bytes) (k : Nat)
    (sat : Int) (ty : UInt8) (c : Cache) (hc : CacheOk H tx c) (hsat : InI64 sat) (hout : AmountsInRange tx)
    (sc : Bytes)
    (hs : (if Spec.Bip143.forkId ty then Spec.Bip143.scriptCode code k
           else Spec.LegacySighash.scriptCode code k) = some sc)
    (hin : Spec.Bip143.forkId ty = true → Spec.Bip143.outsideClaim code k = false)
    (hab : NoRaw OP_CODESEPARATOR (parseScript code)) (hac : NoRaw OP_CHECKSIG (parseScript code))
    (hsingle : ((parseScript code).filter Op.isSep).length = 1 →
      (∃ s t, parseScript code = s :: t ∧ s.isSep = true) ∨ scriptCodeOps code k = some (parseScript code)) :
    (sighash H tx n code k sat ty c).1 =
      ofSpec (if Spec.Bip143.forkId ty then Spec.Bip143.digest H tx n code k sat ty
              else Spec.LegacySighash.digest H tx n code k ty) := by
  have hm : extractSubscript code k = .ok sc := by
    cases hf : Spec.Bip143.forkId ty with
    | true =>
      rw [hf] at hs
      exact C02_subscript_eq_spec_partial_forkid code k sc hs (hin hf) hab hac hsingle
    | false =>
      rw [hf] at hs
      exact C02_subscript_eq_spec_partial code k sc hs hab hac hsingle
  exact C02_sighash_eq_spec H tx n code k sat ty c hc hsat hout sc hm hs

/-! ### non-vacuity -/

/-- `OP_CODESEPARATOR OP_DUP OP_HASH160 <20 bytes> OP_EQUALVERIFY OP_CHECKSIG` -/
def codeSepP2pkh : Bytes :=
  [0xab, 0x76, 0xa9, 0x14, 1, 2, 3, 4, 5, 6, 7, 8, 9, 10, 11, 12, 13, 14, 15, 16, 17, 18, 19, 20, 0x88, 0xac]

example : NoRaw OP_CODESEPARATOR (parseScript codeSepP2pkh) ∧ NoRaw OP_CHECKSIG (parseScript codeSepP2pkh) := by
  unfold NoRaw
  decide

example : extractSubscript codeSepP2pkh 0 = .ok codeSepP2pkh.tail ∧
    Spec.Bip143.scriptCode codeSepP2pkh 0 = some codeSepP2pkh.tail ∧
    Spec.Bip143.outsideClaim codeSepP2pkh 0 = false := by decide

/-! ### concrete script codes: (a), (b), (d) violate the full statement (known findings), (c) agrees -/

/-- (a) raw-byte scanning: a pay-to-public-key-hash script whose hash contains 0xab twice
    (`76a914 2a17924c60bc12ab9cafb44ef0a9f39bab898da0 88ac`): the script code is cut inside the push -/
def p2pkhTwoAb : Bytes :=
  [0x76, 0xa9, 0x14, 0x2a, 0x17, 0x92, 0x4c, 0x60, 0xbc, 0x12, 0xab, 0x9c, 0xaf, 0xb4, 0x4e, 0xf0, 0xa9,
   0xf3, 0x9b, 0xab, 0x89, 0x8d, 0xa0, 0x88, 0xac]

theorem C02_witness_raw_scan :
    extractSubscript p2pkhTwoAb 0 = .ok [0x89, 0x8d, 0xa0, 0x88, 0xac] ∧
    Spec.Bip143.scriptCode p2pkhTwoAb 0 = some p2pkhTwoAb ∧
    Spec.LegacySighash.scriptCode p2pkhTwoAb 0 = some p2pkhTwoAb := by decide

/-- (b) exactly one separator at a non-zero offset before the check:
    `OP_1 OP_DROP OP_CODESEPARATOR OP_DUP OP_CHECKSIG` → `51 75 76 ac`; BIP-143: `76 ac` -/
theorem C02_witness_single_sep_prefix :
    extractSubscript [0x51, 0x75, 0xab, 0x76, 0xac] 0 = .ok [0x51, 0x75, 0x76, 0xac] ∧
    Spec.Bip143.scriptCode [0x51, 0x75, 0xab, 0x76, 0xac] 0 = some [0x76, 0xac] ∧
    Spec.LegacySighash.scriptCode [0x51, 0x75, 0xab, 0x76, 0xac] 0 = some [0x76, 0xac] := by decide

/-- (c) a separator byte but no 0xac byte (`OP_CODESEPARATOR OP_DUP OP_CHECKSIGVERIFY`): the
    whole script without its separators, as the legacy specification says -/
theorem C02_no_checksig_byte :
    extractSubscript [0xab, 0x76, 0xad] 0 = .ok [0x76, 0xad] ∧
    Spec.LegacySighash.scriptCode [0xab, 0x76, 0xad] 0 = some [0x76, 0xad] := by decide

theorem C02_subscript_eq_spec_false : ¬ C02_subscript_eq_spec := by
  intro h
  have := h [0x51, 0x75, 0xab, 0x76, 0xac] 0 [0x76, 0xac] C02_witness_single_sep_prefix.2.2
  rw [C02_witness_single_sep_prefix.1] at this
  exact absurd this (by decide)

/-- (d) the pinned `legacy_sighash` blanks the output AT `n_input` under SIGHASH_SINGLE and keeps the
    ones before it; the original algorithm does the opposite.  One input, one output, type 0x03. -/
def txOneOne : Tx :=
  { version := 1, inputs := [⟨⟨List.replicate 32 5, 0⟩, [], 0xffffffff⟩], outputs := [⟨100, [0x51]⟩], lockTime := 0 }

theorem C02_witness_pinned_legacy_single :
    legacyPreimageWith false txOneOne 0 [0x51] 0 0x03 ≠ ofSpec (Spec.LegacySighash.preimage txOneOne 0 [0x51] 0 0x03) ∧
    legacyPreimageWith true txOneOne 0 [0x51] 0 0x03 = ofSpec (Spec.LegacySighash.preimage txOneOne 0 [0x51] 0 0x03) := by
  decide

/-- **preimage injective**: two BIP-143 preimages that are equal as byte strings were built from
    equal version, inner-hash values, outpoint, script code, amount, sequence, lock time and type —
    for every hash function with 32-byte output, field values in their wire ranges. -/
theorem C02_preimage_injective (dsha : Bytes → Bytes) (hl : ∀ b, (dsha b).length = 32)
    (tx1 tx2 : Tx) (n1 n2 : Nat) (i1 i2 : TxIn) (sc1 sc2 : Bytes) (a1 a2 : Int) (ty1 ty2 : UInt8) (p : Bytes)
    (hi1 : tx1.inputs[n1]? = some i1) (hi2 : tx2.inputs[n2]? = some i2)
    (hv : tx1.version < 2 ^ 32 ∧ tx2.version < 2 ^ 32) (hlt : tx1.lockTime < 2 ^ 32 ∧ tx2.lockTime < 2 ^ 32)
    (hh : i1.prevOutput.hash.length = 32 ∧ i2.prevOutput.hash.length = 32)
    (hx : i1.prevOutput.index < 2 ^ 32 ∧ i2.prevOutput.index < 2 ^ 32)
    (hq : i1.sequence < 2 ^ 32 ∧ i2.sequence < 2 ^ 32)
    (hsc : sc1.length < 2 ^ 64 ∧ sc2.length < 2 ^ 64) (ha : InI64 a1 ∧ InI64 a2)
    (h1 : Spec.Bip143.preimageOf dsha tx1 n1 sc1 a1 ty1 = some p)
    (h2 : Spec.Bip143.preimageOf dsha tx2 n2 sc2 a2 ty2 = some p) :
    tx1.version = tx2.version ∧
    Spec.Bip143.hashPrevouts dsha tx1 ty1 = Spec.Bip143.hashPrevouts dsha tx2 ty2 ∧
    Spec.Bip143.hashSequence dsha tx1 ty1 = Spec.Bip143.hashSequence dsha tx2 ty2 ∧
    i1.prevOutput = i2.prevOutput ∧ sc1 = sc2 ∧ a1 = a2 ∧ i1.sequence = i2.sequence ∧
    Spec.Bip143.hashOutputs dsha tx1 n1 ty1 = Spec.Bip143.hashOutputs dsha tx2 n2 ty2 ∧
    tx1.lockTime = tx2.lockTime ∧ ty1 = ty2 := by
  rw [CG.Proofs.Bip143Inj.preimageOf_eq_ser dsha tx1 n1 i1 sc1 a1 ty1 hi1] at h1
  rw [CG.Proofs.Bip143Inj.preimageOf_eq_ser dsha tx2 n2 i2 sc2 a2 ty2 hi2] at h2
  have hser := (Option.some.inj h1).trans (Option.some.inj h2).symm
  have := CG.Proofs.Bip143Inj.ser_inj _ _
    (CG.Proofs.Bip143Inj.fieldsOf_ok dsha hl tx1 n1 i1 sc1 a1 ty1 hv.1 hlt.1 hh.1 hx.1 hq.1 hsc.1 ha.1)
    (CG.Proofs.Bip143Inj.fieldsOf_ok dsha hl tx2 n2 i2 sc2 a2 ty2 hv.2 hlt.2 hh.2 hx.2 hq.2 hsc.2 ha.2) hser
  simp only [CG.Proofs.Bip143Inj.fieldsOf, CG.Proofs.Bip143Inj.Fields.mk.injEq] at this
  exact this

end CG.Props.C02
