import CG.Model.WireLock
/-!
# C12 (wire level) — whole frames under the writer mutex, for every schedule

Property theorems for `CG.Model.WireLock`.
-/
namespace CG.Props.C12wire
open CG.Model.WireLock

variable {α : Type}

inductive Step (b : Bool) (s : St α) (i : Nat) : St α → Prop
  | acquire {m rest} : s.ths[i]? = some ⟨none, m :: rest⟩ → (b = true → s.lock = none) →
      Step b s i { s with lock := some i, ths := s.ths.set i ⟨some ([], m), rest⟩ }
  | release {w todo} : s.ths[i]? = some ⟨some (w, []), todo⟩ →
      Step b s i { s with lock := none, done := s.done ++ [w], ths := s.ths.set i ⟨none, todo⟩ }
  | write {w c cs todo} : s.ths[i]? = some ⟨some (w, c :: cs), todo⟩ →
      Step b s i { s with wire := s.wire ++ [c], ths := s.ths.set i ⟨some (w ++ [c], cs), todo⟩ }

theorem Step.of_step {b : Bool} {s s' : St α} {i : Nat} (hs : step b s i = some s') : Step b s i s' := by
  unfold step at hs
  split at hs
  · cases hs
  · rename_i t ht
    obtain ⟨cur, todo⟩ := t
    split at hs
    · rename_i hc
      simp only at hc; subst hc
      split at hs
      · cases hs
      · rename_i m rest htd
        simp only at htd; subst htd
        split at hs <;> cases hs
        rename_i hl
        exact acquire ht fun hb => by simpa [hb] using hl
    · rename_i w hc
      simp only at hc; subst hc
      cases hs; exact release ht
    · rename_i w c cs hc
      simp only at hc; subst hc
      cases hs; exact write ht

theorem run_induction {P : St α → Prop} {b : Bool} (hstep : ∀ s i s', P s → Step b s i s' → P s')
    (sched : List Nat) (s : St α) (h : P s) : P (run b s sched) := by
  induction sched generalizing s with
  | nil => exact h
  | cons i rest ih =>
    simp only [run]
    split
    · rename_i s' hs; exact ih s' (hstep s i s' h (.of_step hs))
    · exact ih s h

theorem getElem?_set_cases {β : Type} {l : List β} {i j : Nat} {a u : β} (h : (l.set i a)[j]? = some u) :
    (j = i ∧ u = a) ∨ (j ≠ i ∧ l[j]? = some u) := by
  rw [List.getElem?_set] at h
  split at h
  · rename_i hij
    split at h
    · exact .inl ⟨hij.symm, (Option.some.inj h).symm⟩
    · cases h
  · rename_i hij
    exact .inr ⟨fun e => hij e.symm, h⟩

/-- the invariant: a thread inside its critical section holds the mutex, and the wire is the finished messages
    followed by what that thread has written of its current one -/
structure Inv (s : St α) : Prop where
  inside : ∀ j w r todo, s.ths[j]? = some ⟨some (w, r), todo⟩ → s.lock = some j ∧ s.wire = s.done.flatten ++ w
  free : s.lock = none → s.wire = s.done.flatten
  held : ∀ i, s.lock = some i → ∃ w r todo, s.ths[i]? = some ⟨some (w, r), todo⟩

theorem inv_init (progs : List (List (List α))) : Inv (init progs) := by
  refine ⟨fun j w r todo h => ?_, fun _ => rfl, nofun⟩
  simp [init] at h

theorem inv_step {s s' : St α} {i : Nat} (h : Inv s) (hs : Step true s i s') : Inv s' := by
  cases hs with
  | acquire ht hl =>
    refine ⟨fun j w r todo hj => ?_, nofun, fun _ hi => ?_⟩
    · rcases getElem?_set_cases hj with ⟨rfl, e⟩ | ⟨_, hj⟩
      · cases e; exact ⟨rfl, by simpa using h.free (hl rfl)⟩
      · cases (hl rfl).symm.trans (h.inside _ _ _ _ hj).1
    · cases hi
      exact ⟨_, _, _, by rw [List.getElem?_set_self', ht]; rfl⟩
  | release ht =>
    have ⟨hl, hw⟩ := h.inside _ _ _ _ ht
    refine ⟨fun j w r todo hj => ?_, fun _ => by simp [hw], nofun⟩
    rcases getElem?_set_cases hj with ⟨_, e⟩ | ⟨hne, hj⟩
    · cases e
    · cases hl.symm.trans (h.inside _ _ _ _ hj).1; exact absurd rfl hne
  | write ht =>
    have ⟨hl, hw⟩ := h.inside _ _ _ _ ht
    refine ⟨fun j w r todo hj => ?_, fun hn => (nomatch hl.symm.trans hn), fun i' hi => ?_⟩
    · rcases getElem?_set_cases hj with ⟨rfl, e⟩ | ⟨hne, hj⟩
      · cases e; exact ⟨hl, by simp [hw]⟩
      · cases hl.symm.trans (h.inside _ _ _ _ hj).1; exact absurd rfl hne
    · cases hl.symm.trans hi
      exact ⟨_, _, _, by rw [List.getElem?_set_self', ht]; rfl⟩

/-- membership invariant: nothing is invented — finished messages, the message in progress and the messages still
    to send are messages of the programs -/
def Mem (A : List (List α)) (s : St α) : Prop :=
  (∀ m ∈ s.done, m ∈ A) ∧
  ∀ (j : Nat) (t : Th α), s.ths[j]? = some t → (∀ m ∈ t.todo, m ∈ A) ∧ (∀ w r, t.cur = some (w, r) → w ++ r ∈ A)

theorem mem_init (progs : List (List (List α))) : Mem progs.flatten (init progs) := by
  refine ⟨by simp [init], ?_⟩
  intro j t h
  simp only [init, List.getElem?_map, Option.map_eq_some_iff] at h
  obtain ⟨p, hp, rfl⟩ := h
  refine ⟨fun m hm => ?_, fun w r hc => by cases hc⟩
  exact List.mem_flatten.mpr ⟨p, List.mem_of_getElem? hp, hm⟩

theorem mem_step {b : Bool} {A : List (List α)} {s s' : St α} {i : Nat} (h : Mem A s) (hs : Step b s i s') :
    Mem A s' := by
  obtain ⟨hd, ht⟩ := h
  cases hs with
  | acquire hi =>
    have ⟨htodo, _⟩ := ht _ _ hi
    refine ⟨hd, fun j u hj => ?_⟩
    rcases getElem?_set_cases hj with ⟨_, rfl⟩ | ⟨_, hj⟩
    · exact ⟨fun m hm => htodo m (List.mem_cons_of_mem _ hm), fun w r e => by cases e; exact htodo _ List.mem_cons_self⟩
    · exact ht j u hj
  | release hi =>
    have ⟨htodo, hcur⟩ := ht _ _ hi
    refine ⟨fun m hm => ?_, fun j u hj => ?_⟩
    · rcases List.mem_append.mp hm with hm | hm
      · exact hd m hm
      · cases List.mem_singleton.mp hm; simpa using hcur _ _ rfl
    · rcases getElem?_set_cases hj with ⟨_, rfl⟩ | ⟨_, hj⟩
      · exact ⟨htodo, nofun⟩
      · exact ht j u hj
  | write hi =>
    have ⟨htodo, hcur⟩ := ht _ _ hi
    refine ⟨hd, fun j u hj => ?_⟩
    rcases getElem?_set_cases hj with ⟨_, rfl⟩ | ⟨_, hj⟩
    · exact ⟨htodo, fun w r e => by cases e; simpa using hcur _ _ rfl⟩
    · exact ht j u hj

/-- **Whole frames, for every schedule.**  Whatever the number of threads, their messages, the chunking of each message into
    write calls and the schedule: at every moment the wire is a concatenation of WHOLE messages of the programs, followed —
    only while some thread is inside its critical section — by the chunks that thread has written of its current message.
    No chunk of one message ever lands inside another. -/
theorem C12_wire_whole_frames (progs : List (List (List α))) (sched : List Nat) :
    let s := run true (init progs) sched
    ∃ (ms : List (List α)) (part : List α),
      s.wire = ms.flatten ++ part ∧ (∀ m ∈ ms, m ∈ progs.flatten) ∧
      (s.lock = none → part = []) ∧
      (∀ i, s.lock = some i → ∃ rest, part ++ rest ∈ progs.flatten) := by
  intro s
  have hi : Inv s := run_induction (fun _ _ _ => inv_step) sched _ (inv_init progs)
  have hm : Mem progs.flatten s := run_induction (fun _ _ _ => mem_step) sched _ (mem_init progs)
  cases hl : s.lock with
  | none => exact ⟨s.done, [], by simpa using hi.free hl, hm.1, fun _ => rfl, nofun⟩
  | some k =>
    obtain ⟨w, r, todo, ht⟩ := hi.held k hl
    exact ⟨s.done, w, (hi.inside _ _ _ _ ht).2, hm.1, nofun, fun i _ => ⟨r, (hm.2 k _ ht).2 w r rfl⟩⟩

/-- when every thread has finished, the wire is exactly a concatenation of whole messages -/
theorem C12_wire_finished (progs : List (List (List α))) (sched : List Nat)
    (hf : (run true (init progs) sched).lock = none) :
    ∃ ms : List (List α), (run true (init progs) sched).wire = ms.flatten ∧ ∀ m ∈ ms, m ∈ progs.flatten := by
  obtain ⟨ms, part, hw, hmem, hn, _⟩ := C12_wire_whole_frames progs sched
  exact ⟨ms, by rw [hw, hn hf]; simp, hmem⟩

/-- the mutex never deadlocks: its holder can always take a step -/
theorem C12_wire_holder_moves (progs : List (List (List α))) (sched : List Nat) (i : Nat)
    (hl : (run true (init progs) sched).lock = some i) :
    (step true (run true (init progs) sched) i).isSome = true := by
  obtain ⟨w, r, todo, ht⟩ := (run_induction (fun _ _ _ => inv_step) sched _ (inv_init progs)).held i hl
  unfold step
  simp only [ht]
  cases r <;> simp

/-- **Without the mutex the claim is false**: two threads, one two-chunk message each, alternating schedule — the wire is
    `a1 b1 a2 b2`, which is no concatenation of `[a1, a2]` and `[b1, b2]`. -/
theorem C12_wire_unlocked_interleaves :
    (run false (init [[[1, 2]], [[3, 4]]]) [0, 1, 0, 1, 0, 1, 0, 1]).wire = [1, 3, 2, 4] := by decide

/-- … and the same programs under the mutex, same schedule: whole frames -/
example : (run true (init [[[1, 2]], [[3, 4]]]) [0, 1, 0, 1, 0, 1, 0, 1, 1, 1, 1]).wire = [1, 2, 3, 4] := by decide

end CG.Props.C12wire
