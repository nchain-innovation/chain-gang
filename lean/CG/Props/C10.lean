import CG.Proofs.Mnemonic
import CG.Generated.Wordlists
import CG.Proofs.Wordlists.ChineseSimplified
import CG.Proofs.Wordlists.ChineseTraditional
import CG.Proofs.Wordlists.English
import CG.Proofs.Wordlists.French
import CG.Proofs.Wordlists.Italian
import CG.Proofs.Wordlists.Japanese
import CG.Proofs.Wordlists.Korean
import CG.Proofs.Wordlists.Spanish
/-!
# C10 — BIP-39 mnemonics round-trip and match the standard for every word list

Property theorems only.  Model: `CG.Model.Bits` (`util/bits.rs`), `CG.Model.Mnemonic`
(`wallet/mnemonic.rs`, with the repaired positional word lookup); specification: `CG.Spec.Bip39`;
word lists: `CG.Generated.Wordlists` (regenerated from `load_wordlist` on every run).
SHA-256 is the parameter `H` throughout; a word is its UTF-8 byte string.

`toBits b` is the bit string a `Bits` value stands for (first `len` bits of its bytes, MSB first);
`WF b` says `b` holds exactly the bytes it needs and the unused low bits of the last byte are zero.
-/
namespace CG.Props.C10
open CG CG.Model.Bits CG.Model.Mnemonic CG.Spec.Bip39 CG.Proofs.Mnemonic

/-- `from_slice(data, len)` is the first `len` bits of `data` (all of them if `len` is larger). -/
theorem C10_bits_from_slice (d : Bytes) (n : Nat) :
    toBits (fromSlice d n) = (bytesToBits d).take n ∧ (fromSlice d n).len = min (d.length * 8) n :=
  ⟨toBits_fromSlice d n, fromSlice_len d n⟩

/-- `append` is concatenation of bit strings (and never panics), for a well-formed `self` and any
    `other` that has the bytes its length promises; it preserves well-formedness. -/
theorem C10_bits_append (a b : Bits) (ha : WF a) (hb : b.len ≤ 8 * b.data.length) :
    ∃ r, append a b = .ok r ∧ toBits r = toBits a ++ toBits b ∧ r.len = a.len + b.len ∧
      (WF b → WF r) := by
  obtain ⟨r, h1, h2, h3, _, h5⟩ := append_spec a b ha hb
  exact ⟨r, h1, h3, h2, h5⟩

/-- `extract(i, len)` is the number written by bits `[i, i+len)`, for `len ≤ 64` and in range. -/
theorem C10_bits_extract (b : Bits) (i len : Nat) (hr : i + len ≤ b.len)
    (hb : b.len ≤ 8 * b.data.length) (h64 : len ≤ 64) :
    extract b i len = .ok (bitsToNat (((toBits b).drop i).take len)) := by
  rw [extract_toBits b i len hr hb, Nat.mod_eq_of_lt]
  refine Nat.lt_of_lt_of_le (bitsToNat_lt _) (Nat.pow_le_pow_right (by omega) ?_)
  simp
  omega

/-- … and for any `len` it is that number modulo 2^64 (the `u64` accumulator drops high bits). -/
theorem C10_bits_extract_wrap (b : Bits) (i len : Nat) (hr : i + len ≤ b.len)
    (hb : b.len ≤ 8 * b.data.length) :
    extract b i len = .ok (bitsToNat (((toBits b).drop i).take len) % 2 ^ 64) :=
  extract_toBits b i len hr hb

example : WF Bits.new := wf_new
example : WF (fromSlice [0xab, 0xc0] 11) := by
  rw [show fromSlice [0xab, 0xc0] 11 = wordBits 0x55e by decide]
  exact wf_wordBits _

/-- For every entropy whose length is a multiple of 4 bytes — any length the hash can supply
    `ENT/32` checksum bits for — any hash and any 2048-word list, `mnemonic_encode` returns the words
    at the BIP-39 indexes (entropy ++ first ENT/32 bits of the hash, in 11-bit big-endian groups). -/
theorem C10_encode_eq_spec (H : Bytes → Bytes) (e : Bytes) (wl : List Bytes)
    (hwl : wl.length = 2048) (h4 : e.length % 4 = 0) (hH : e.length / 4 ≤ 8 * (H e).length) :
    ∃ idx, encodeIdx H e = some idx ∧ idx.length = 3 * (e.length / 4) ∧ (∀ i ∈ idx, i < 2048) ∧
      mnemonicEncode H e wl = .ok (idx.map (fun i => wl.getD i [])) := by
  have hS := sentenceBits_length H e h4 hH
  obtain ⟨g1, g2, _⟩ := groups_spec 11 (by omega) (3 * (e.length / 4)) (sentenceBits H e).length
    (sentenceBits H e) hS (by omega)
  refine ⟨_, ?_, by simpa using g1, ?_, mnemonicEncode_spec H e wl hwl h4 hH⟩
  · unfold encodeIdx
    rw [if_neg (by omega), if_neg (by omega)]
  · intro i hi
    obtain ⟨g, hg, rfl⟩ := List.mem_map.mp hi
    have := bitsToNat_lt g
    rw [g2 g hg] at this
    omega

example : ∃ e : Bytes, e.length % 4 = 0 ∧ e.length / 4 ≤ 8 * (List.replicate 32 (0 : UInt8)).length :=
  ⟨List.replicate 16 0, by decide⟩

/-- `decode (encode e) = e` for every duplicate-free 2048-word list (position lookup needs nothing
    else), every entropy length that is a multiple of 4, any hash long enough. -/
theorem C10_decode_encode (H : Bytes → Bytes) (e : Bytes) (wl : List Bytes)
    (hwl : wl.length = 2048) (hn : wl.Nodup) (h4 : e.length % 4 = 0)
    (hH : ∀ x, e.length / 4 ≤ 8 * (H x).length) :
    ∃ ws, mnemonicEncode H e wl = .ok ws ∧ mnemonicDecode H ws wl = .ok e :=
  ⟨_, mnemonicEncode_spec H e wl hwl h4 (hH e), decode_encode H e wl hwl hn h4 hH⟩

/-- On sentences of `3k` words (`k ≤ 64`) `mnemonic_decode` *is* BIP-39 decoding: the entropy when
    every word is listed and the checksum matches, `BadArgument` otherwise — never a panic. -/
theorem C10_decode_eq_spec (H : Bytes → Bytes) (wl mn : List Bytes) (k : Nat)
    (hk : mn.length = 3 * k) (hk64 : k ≤ 64) (hH : ∀ x, k ≤ 8 * (H x).length) :
    mnemonicDecode H mn wl =
      match Spec.Bip39.decode H wl mn with
      | .entropy e => .ok e
      | _ => .err "BadArgument" :=
  decode_eq_spec H wl mn k hk hk64 hH

/-- A sentence whose checksum is wrong is rejected with an error. -/
theorem C10_bad_checksum_rejected (H : Bytes → Bytes) (wl mn : List Bytes) (k : Nat)
    (hk : mn.length = 3 * k) (hk64 : k ≤ 64) (hH : ∀ x, k ≤ 8 * (H x).length)
    (hbad : Spec.Bip39.decode H wl mn = .badChecksum) :
    mnemonicDecode H mn wl = .err "BadArgument" := by
  rw [decode_eq_spec H wl mn k hk hk64 hH, hbad]

/-- A sentence containing a word outside the list is rejected with an error — for every sentence
    length, list and hash. -/
theorem C10_bad_word_rejected (H : Bytes → Bytes) (wl mn : List Bytes)
    (hbad : ∃ w ∈ mn, w ∉ wl) : mnemonicDecode H mn wl = .err "BadArgument" := by
  obtain ⟨w, hw, hnot⟩ := hbad
  have : allSome (mn.map (indexOf · wl)) = none := by
    rw [allSome_none_iff]
    exact List.mem_map.mpr ⟨w, hw, indexOf_none.mpr hnot⟩
  have hdec := decLoop_spec wl mn Bits.new wf_new
  rw [this] at hdec
  simp only [mnemonicDecode, hdec]

-- the hypotheses are satisfiable: a three-word sentence over a one-word list, with a hash whose
-- first bit is 1 (checksum wrong) or 0 (checksum right)
example : Spec.Bip39.decode (fun _ => List.replicate 32 0xff) [[97]] [[97], [97], [97]] = .badChecksum := by
  decide
example : Spec.Bip39.decode (fun _ => List.replicate 32 0) [[97]] [[97], [97], [97]] = .entropy [0, 0, 0, 0] := by
  decide
example : mnemonicDecode (fun _ => List.replicate 32 0xff) [[97], [97], [97]] [[97]] = .err "BadArgument" :=
  C10_bad_checksum_rejected _ _ _ 1 rfl (by decide) (by intro x; simp) (by decide)
example : ∃ w ∈ [[97], [98]], w ∉ ([[97]] : List Bytes) := ⟨[98], by decide, by decide⟩

/-- Conversely a sentence is accepted only with the entropy BIP-39 assigns to it. -/
theorem C10_accept_only_valid (H : Bytes → Bytes) (wl mn : List Bytes) (k : Nat) (e : Bytes)
    (hk : mn.length = 3 * k) (hk64 : k ≤ 64) (hH : ∀ x, k ≤ 8 * (H x).length)
    (hok : mnemonicDecode H mn wl = .ok e) : Spec.Bip39.decode H wl mn = .entropy e := by
  rw [decode_eq_spec H wl mn k hk hk64 hH] at hok
  split at hok
  · rename_i e' he
    injection hok with h
    rw [he, h]
  · cases hok

open CG.Generated.Wordlists CG.Proofs.Wordlists in
/-- Each of the eight bundled lists has 2048 entries, pairwise distinct (kernel-evaluated checker
    `keysOk`, proved sound in `CG.Proofs.Wordlists`, on the lists generated from the current tree). -/
theorem C10_wordlists_ok : ∀ wl ∈ Generated.Wordlists.all, wl.length = 2048 ∧ wl.Nodup := by
  intro wl h
  simp only [Generated.Wordlists.all, List.mem_cons, List.mem_nil_iff, or_false] at h
  rcases h with rfl | rfl | rfl | rfl | rfl | rfl | rfl | rfl
  · exact keysOk_sound chineseSimplified_ok
  · exact keysOk_sound chineseTraditional_ok
  · exact keysOk_sound english_ok
  · exact keysOk_sound french_ok
  · exact keysOk_sound italian_ok
  · exact keysOk_sound japanese_ok
  · exact keysOk_sound korean_ok
  · exact keysOk_sound spanish_ok

open CG.Generated.Wordlists CG.Proofs.Wordlists in
/-- Why the pinned tree's `binary_search` lookup was wrong: five of the lists are not in byte order
    (the BIP-39 index order is the order of the file, not byte order).  The repaired lookup is by
    position and needs no order. -/
theorem C10_unsorted_lists :
    sortedBytes french = false ∧ sortedBytes spanish = false ∧ sortedBytes japanese = false ∧
    sortedBytes chineseSimplified = false ∧ sortedBytes chineseTraditional = false := by
  decide +kernel

/-- The headline: for each bundled list and every entropy of `4k ≤ 1024` bytes (in particular the
    BIP-39 lengths 16, 20, 24, 28, 32), with any 32-byte hash, encoding yields the BIP-39 sentence
    and decoding it returns the entropy. -/
theorem C10_roundtrip_bundled (H : Bytes → Bytes) (hH : ∀ x, (H x).length = 32)
    (wl : List Bytes) (hwl : wl ∈ Generated.Wordlists.all) (e : Bytes)
    (h4 : e.length % 4 = 0) (hlen : e.length ≤ 1024) :
    ∃ idx, encodeIdx H e = some idx ∧
      mnemonicEncode H e wl = .ok (idx.map (fun i => wl.getD i [])) ∧
      mnemonicDecode H (idx.map (fun i => wl.getD i [])) wl = .ok e := by
  obtain ⟨h2048, hnd⟩ := C10_wordlists_ok wl hwl
  have hH' : ∀ x, e.length / 4 ≤ 8 * (H x).length := by intro x; rw [hH x]; omega
  obtain ⟨idx, h1, _, _, h4'⟩ := C10_encode_eq_spec H e wl h2048 h4 (hH' e)
  obtain ⟨ws, h5, h6⟩ := C10_decode_encode H e wl h2048 hnd h4 hH'
  rw [h4'] at h5
  injection h5 with h5
  exact ⟨idx, h1, h4', by rw [h5]; exact h6⟩

/-- **Encoding is injective**: two entropies (lengths multiples of 4, any hash long enough) that encode
    to the same sentence over a duplicate-free 2048-word list are equal — no two seeds share a mnemonic. -/
theorem C10_encode_injective (H : Bytes → Bytes) (e1 e2 : Bytes) (wl : List Bytes)
    (hwl : wl.length = 2048) (hn : wl.Nodup) (h41 : e1.length % 4 = 0) (h42 : e2.length % 4 = 0)
    (hH1 : ∀ x, e1.length / 4 ≤ 8 * (H x).length) (hH2 : ∀ x, e2.length / 4 ≤ 8 * (H x).length)
    (ws : List Bytes) (h1 : mnemonicEncode H e1 wl = .ok ws) (h2 : mnemonicEncode H e2 wl = .ok ws) :
    e1 = e2 := by
  obtain ⟨w1, a1, b1⟩ := C10_decode_encode H e1 wl hwl hn h41 hH1
  obtain ⟨w2, a2, b2⟩ := C10_decode_encode H e2 wl hwl hn h42 hH2
  rw [h1] at a1
  rw [h2] at a2
  injection a1 with a1
  injection a2 with a2
  subst a1
  subst a2
  rw [b1] at b2
  injection b2

end CG.Props.C10
