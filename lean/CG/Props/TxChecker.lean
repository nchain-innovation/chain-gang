import CG.Proofs.TxCheckerCache
import CG.Props.C02
import CG.Props.C03
import CG.Props.C04
import CG.Props.C07
/-!
# The real `TransactionChecker` and the whole of `Tx::validate` inside the model (strengthens C03, C07)

Model: `CG.Model.TxChecker` (`TransactionChecker::check_sig / check_locktime /
check_sequence`, `ZChecker`, `TransactionlessChecker`, and `validateTx` = C04's checks before the script
loop + for every input the two-phase script check of C03 with the real checker, all inputs sharing ONE
signature-hash cache as the Rust does + the P2SH sunset check).

In C03's and C07's theorems the checker is an abstract oracle.  Here it is the model of the real one:

* `C07_transaction_checker_no_panic` — the model of the real checker satisfies the hypothesis
  `NeverPanics` of `C07_no_panic` (from `C02_never_panics`), for every transaction, `input <
  tx.inputs.length`, amount, FORKID mode and k256 behaviour; corollaries for script evaluation and for
  the whole of `Tx::validate`; likewise `ZChecker`, `TransactionlessChecker`.
* `C03_check_sig_iff` — `check_sig` answers `Ok(true)` exactly when the signature is `der ‖ type`, the
  FORKID requirement is met, the digest of THIS transaction / input / amount / script code under `type`
  is computed without error, `der` and the key parse, and `verify key digest sig` holds; the digest is
  C02's model digest, which is the BIP-143 / legacy reference digest under C02's hypotheses
  (`C03_check_sig_iff_spec`, from `C02_sighash_eq_spec`).
* `C03_validate_tx_cache_transparent` — the verdict of `Tx::validate` with its one shared cache is the
  verdict of C04's model with every input judged from a FRESH cache (from `C02_cache_invariant`).
* `C03_validate_tx_sound` — an accepted transaction satisfies C04's conservation specification, and
  every input that spends a P2PKH / P2PK / m-of-n multisig output carries, on the stack its unlocking
  script leaves, signature(s) that `verify` under the locked key(s) over the digest of THIS
  transaction, input index, spent amount and locking script (`C03_authorisation` composed with
  `C03_check_sig_iff`).

The three k256 calls are parameters (`K256`): the theorems hold for whatever `Signature::from_der`,
`VerifyingKey::from_sec1_bytes` and `verify_prehash` compute; `dsha` (double SHA-256) and the hash
opcodes (`Hashes`) likewise.  ECDSA unforgeability and collision resistance are not proved or used.
-/
namespace CG.Props.TxChecker
open CG CG.Model.Interp CG.Model.ScriptNum CG.Model.TxChecker CG.Proofs.TxChecker
open CG.Model.Sighash (Cache sighash SIGHASH_FORKID extractSubscript)
open CG.Proofs.Sighash (CacheOk cacheOk_empty InI64 AmountsInRange ofSpec)
open CG.Proofs.Templates (p2pkhLock p2pkLock multisigLock msCleaned Matches)
open CG.Props.C07 (C07_no_panic)

variable {Sig Key : Type}

/-- **the real transaction checker satisfies `NeverPanics`**: for every transaction, input index
    inside the transaction, spent amount, FORKID mode, hash function and k256 behaviour, none of
    `check_sig`, `check_locktime`, `check_sequence` panics, in any cache state. -/
theorem C07_transaction_checker_no_panic (dsha : Bytes → Bytes) (K : K256 Sig Key) (tx : CG.Model.TxSer.Tx)
    (input : Nat) (satoshis : Int) (requireForkid : Bool) (hin : input < tx.inputs.length) :
    (txChecker dsha K ⟨tx, input, satoshis, requireForkid⟩).NeverPanics :=
  txChecker_neverPanics dsha K ⟨tx, input, satoshis, requireForkid⟩ hin

/-- **corollary (by `C07_no_panic`)**: `core_eval` on any bytes, flag word, start / break offset and
    initial stacks WITH THE REAL TRANSACTION CHECKER never panics. -/
theorem C07_eval_transaction_checker_no_panic (H : Hashes) (dsha : Bytes → Bytes) (K : K256 Sig Key)
    (tx : CG.Model.TxSer.Tx) (input : Nat) (satoshis : Int) (requireForkid : Bool)
    (hin : input < tx.inputs.length) (c0 : Cache) (script : Bytes) (flags : Nat)
    (startAt breakAt : Option Nat) (stack alt : Option Stack) (s : String) :
    coreEval H (txChecker dsha K ⟨tx, input, satoshis, requireForkid⟩) c0 script flags startAt breakAt stack alt
      ≠ .panic s :=
  C07_no_panic H _ (C07_transaction_checker_no_panic dsha K tx input satoshis requireForkid hin)
    c0 script flags startAt breakAt stack alt s

/-- the index hypothesis is needed: with `input ≥ tx.inputs.length` the `self.tx.inputs[self.input]` of
    `check_locktime` is reached by `OP_0 OP_CHECKLOCKTIMEVERIFY` under pre-genesis rules -/
theorem C07_transaction_checker_index_needed :
    (match coreEval CG.Props.C07.H0
        (txChecker id (⟨fun _ => none, fun _ => none, fun _ _ _ => false⟩ : K256 Unit Unit)
          ⟨⟨1, [], [], 0⟩, 0, 0, true⟩) Cache.empty [0x00, 0xb1] 1 none none none none with
     | .panic site => site
     | _ => "") = "self.tx.inputs[self.input]" := by decide

theorem C07_z_checker_no_panic (K : K256 Sig Key) (z : Bytes) : (zChecker K z).NeverPanics := by
  refine ⟨?_, ?_, ?_⟩
  · intro c sg pk scr s
    show zCheckSig K z sg pk ≠ .panic s
    unfold zCheckSig
    repeat' split
    all_goals simp [scriptErr, k256Err]
  · intro c t s; simp [zChecker, illegalState]
  · intro c t s; simp [zChecker, illegalState]

theorem C07_transactionless_checker_no_panic : tlessChecker.NeverPanics :=
  ⟨by intro c sg pk scr s; simp [tlessChecker, illegalState],
   by intro c t s; simp [tlessChecker, illegalState],
   by intro c t s; simp [tlessChecker, illegalState]⟩

theorem C07_eval_z_checker_no_panic (H : Hashes) (K : K256 Sig Key) (z : Bytes) (script : Bytes) (flags : Nat)
    (startAt breakAt : Option Nat) (stack alt : Option Stack) (s : String) :
    coreEval H (zChecker K z) () script flags startAt breakAt stack alt ≠ .panic s :=
  C07_no_panic H _ (C07_z_checker_no_panic K z) () script flags startAt breakAt stack alt s

theorem C07_eval_transactionless_checker_no_panic (H : Hashes) (script : Bytes) (flags : Nat)
    (startAt breakAt : Option Nat) (stack alt : Option Stack) (s : String) :
    coreEval H tlessChecker () script flags startAt breakAt stack alt ≠ .panic s :=
  C07_no_panic H _ C07_transactionless_checker_no_panic () script flags startAt breakAt stack alt s

/-- `sig` is a valid signature for `pk` over the digest of transaction `x.tx`, input `x.input`, amount
    `x.satoshis` and script code `script` — the digest computed from cache state `c` -/
def SigValidAt (dsha : Bytes → Bytes) (K : K256 Sig Key) (x : Ctx) (c : Cache) (sig pk script : Bytes) : Prop :=
  ∃ der ty digest s k, sig = der ++ [ty] ∧
    (x.requireForkid = true → ty &&& SIGHASH_FORKID ≠ 0) ∧
    (sighash dsha x.tx x.input script 0 x.satoshis ty c).1 = .ok digest ∧
    K.parseSig der = some s ∧ K.parseKey pk = some k ∧ K.verify k digest s = true

/-- the same with the digest computed afresh (empty cache) -/
def SigValid (dsha : Bytes → Bytes) (K : K256 Sig Key) (x : Ctx) (sig pk script : Bytes) : Prop :=
  SigValidAt dsha K x Cache.empty sig pk script

/-- **`check_sig` returns `Ok(true)` iff** the signature is non-empty (`der ‖ type`), the FORKID
    requirement is met, the signature hash is computed without error, both `der` and the key parse,
    and `verify key digest sig` holds, `digest` being C02's model digest for THIS transaction, input,
    amount, script code and type byte.  For every cache state. -/
theorem C03_check_sig_iff (dsha : Bytes → Bytes) (K : K256 Sig Key) (x : Ctx) (c : Cache)
    (sig pk script : Bytes) :
    (checkSig dsha K x c sig pk script).1 = .ok true ↔ SigValidAt dsha K x c sig pk script := by
  obtain ⟨a1, a2, a3⟩ := checkSig_cases dsha K x c sig pk script
  unfold SigValidAt
  cases hl : sig.getLast? with
  | none =>
    rw [a2 hl]
    constructor
    · intro h; simp [scriptErr] at h
    · rintro ⟨der, ty, digest, s, k, rfl, -⟩
      simp at hl
  | some ty =>
    have hsig : sig = sig.dropLast ++ [ty] := by
      have hne : sig ≠ [] := by intro h0; rw [h0] at hl; simp at hl
      have hg : sig.getLast hne = ty := by
        have := List.getLast?_eq_some_getLast hne
        rw [hl] at this
        exact (Option.some.inj this).symm
      rw [← hg]
      exact (List.dropLast_concat_getLast hne).symm
    by_cases hf : x.requireForkid = true ∧ ty &&& SIGHASH_FORKID = 0
    · rw [a3 ty hl hf]
      constructor
      · intro h; simp [scriptErr] at h
      · rintro ⟨der, ty', digest, s, k, hs, hfk, -⟩
        rw [hs] at hl
        simp only [List.getLast?_append, List.getLast?_singleton, Option.some_or, Option.some.injEq] at hl
        subst hl
        exact absurd hf.2 (hfk hf.1)
    · rw [(a1 ty hl hf).2]
      have hfk : x.requireForkid = true → ty &&& SIGHASH_FORKID ≠ 0 := fun h1 h2 => hf ⟨h1, h2⟩
      constructor
      · intro h
        cases hd : (sighash dsha x.tx x.input script 0 x.satoshis ty c).1 with
        | err e => rw [hd] at h; simp at h
        | panic p => rw [hd] at h; simp at h
        | ok d =>
          rw [hd] at h
          simp only [] at h
          cases hp : K.parseSig sig.dropLast with
          | none => rw [hp] at h; simp [k256Err] at h
          | some s =>
            rw [hp] at h
            simp only [] at h
            cases hk : K.parseKey pk with
            | none => rw [hk] at h; simp [k256Err] at h
            | some k =>
              rw [hk] at h
              simp only [Outcome.ok.injEq] at h
              exact ⟨sig.dropLast, ty, d, s, k, hsig, hfk, hd, hp, rfl, h⟩
      · rintro ⟨der, ty', digest, s, k, hs, -, hd, hp, hk, hv⟩
        have hty : ty' = ty := by
          rw [hs] at hl
          simpa [List.getLast?_append] using hl
        subst hty
        have hder : sig.dropLast = der := by rw [hs]; simp
        rw [hd]
        simp only [hder, hp, hk, hv]

/-- through any VALID cache the digest is the fresh one: the verdict of `check_sig` does not depend on
    the history of the shared cache -/
theorem C03_check_sig_iff_fresh (dsha : Bytes → Bytes) (K : K256 Sig Key) (x : Ctx) (c : Cache)
    (hc : CacheOk dsha x.tx c) (sig pk script : Bytes) :
    (checkSig dsha K x c sig pk script).1 = .ok true ↔ SigValid dsha K x sig pk script := by
  rw [C03_check_sig_iff]
  unfold SigValid SigValidAt
  simp only [fun ty => (sighash_cache dsha x.tx x.input script 0 x.satoshis ty c hc).1]

/-- **the digest is the reference digest**: under C02's hypotheses (valid cache, amounts in `i64`, the
    model's sub-script selection agreeing with the specification's script code — see
    `C02_subscript_eq_spec_partial` for when it does) the digest in `C03_check_sig_iff` is the BIP-143
    digest (FORKID bit set) resp. the legacy digest of the specification (`C02_sighash_eq_spec`). -/
theorem C03_check_sig_iff_spec (dsha : Bytes → Bytes) (K : K256 Sig Key) (x : Ctx) (c : Cache)
    (hc : CacheOk dsha x.tx c) (hsat : InI64 x.satoshis) (hout : AmountsInRange x.tx)
    (sig pk script sc : Bytes) (hm : extractSubscript script 0 = .ok sc)
    (hs143 : Spec.Bip143.scriptCode script 0 = some sc) (hsleg : Spec.LegacySighash.scriptCode script 0 = some sc) :
    (checkSig dsha K x c sig pk script).1 = .ok true ↔
      ∃ der ty digest s k, sig = der ++ [ty] ∧
        (x.requireForkid = true → ty &&& SIGHASH_FORKID ≠ 0) ∧
        (if Spec.Bip143.forkId ty then Spec.Bip143.digest dsha x.tx x.input script 0 x.satoshis ty
         else Spec.LegacySighash.digest dsha x.tx x.input script 0 ty) = some digest ∧
        K.parseSig der = some s ∧ K.parseKey pk = some k ∧ K.verify k digest s = true := by
  rw [C03_check_sig_iff]
  unfold SigValidAt
  have key : ∀ ty digest, (sighash dsha x.tx x.input script 0 x.satoshis ty c).1 = .ok digest ↔
      (if Spec.Bip143.forkId ty then Spec.Bip143.digest dsha x.tx x.input script 0 x.satoshis ty
       else Spec.LegacySighash.digest dsha x.tx x.input script 0 ty) = some digest := by
    intro ty digest
    rw [CG.Props.C02.C02_sighash_eq_spec dsha x.tx x.input script 0 x.satoshis ty c hc hsat hout sc hm
      (by cases Spec.Bip143.forkId ty <;> simp [hs143, hsleg])]
    cases (if Spec.Bip143.forkId ty then Spec.Bip143.digest dsha x.tx x.input script 0 x.satoshis ty
       else Spec.LegacySighash.digest dsha x.tx x.input script 0 ty) <;> simp [ofSpec]
  simp only [key]

/-- **one shared cache = a fresh cache per input**: `Tx::validate` (all inputs evaluated through the
    ONE `SigHashCache` created before the loop) computes exactly the verdict of C04's model with the
    per-input script verdicts computed from a fresh, empty cache each — for every transaction, map,
    profile, rule set, FORKID mode, pre-genesis set, hash functions and k256 behaviour. -/
theorem C03_validate_tx_cache_transparent (E : Env Sig Key) (p : CG.Model.TxValidate.Profile)
    (tx : CG.Model.TxValidate.Tx) (utxos : CG.Model.TxValidate.Utxos) :
    validateTx E p tx utxos
      = CG.Model.TxValidate.validate p E.useGenesis tx utxos (freshInput E tx utxos) := by
  unfold validateTx CG.Model.TxValidate.validate CG.Model.TxValidate.validateWith
  rw [scriptLoopSt_eq E tx utxos tx.inputs 0 Cache.empty (by simp) (cacheOk_empty _ _)]
  rfl

/-- the loop itself, from any valid cache and any position -/
theorem C03_script_loop_cache_transparent (E : Env Sig Key) (tx : CG.Model.TxValidate.Tx)
    (utxos : CG.Model.TxValidate.Utxos) (i : Nat) (c : Cache) (hc : CacheOk E.dsha (toSer tx) c) :
    scriptLoopSt E tx utxos i (tx.inputs.drop i) c
      = CG.Model.TxValidate.scriptLoop utxos (freshInput E tx utxos) i (tx.inputs.drop i) :=
  scriptLoopSt_eq E tx utxos _ i c rfl hc

theorem validateInput_ne_panic {σ : Type} (H : Hashes) (C : Checker σ) (hC : C.NeverPanics) (c0 : σ)
    (unlock lock : Bytes) (flags : Nat) (s : String) :
    CG.Model.TxScript.validateInput H C c0 unlock lock flags ≠ .panic s := by
  unfold CG.Model.TxScript.validateInput
  cases h1 : coreEval H C c0 unlock flags none none none none with
  | err e => nofun
  | panic q => exact absurd h1 (C07_no_panic H C hC _ _ _ _ _ _ _ q)
  | ok r1 =>
    simp only []
    cases h2 : coreEval H C r1.chk lock flags none none (some r1.stack) none with
    | err e => nofun
    | panic q => exact absurd h2 (C07_no_panic H C hC _ _ _ _ _ _ _ q)
    | ok r2 =>
      simp only []
      cases r2.stack with
      | nil => nofun
      | cons t rest => exact Outcome.ite_ne_panic nofun nofun

theorem C07_fresh_input_no_panic (E : Env Sig Key) (tx : CG.Model.TxValidate.Tx)
    (utxos : CG.Model.TxValidate.Utxos) (j : Nat) (s : String) : freshInput E tx utxos j ≠ .panic s := by
  unfold freshInput
  cases hi : tx.inputs[j]? with
  | none => simp
  | some tin =>
    simp only []
    cases hu : utxos tin.prevOutput with
    | none => simp
    | some out =>
      simp only []
      have hj : j < (toSer tx).inputs.length := by
        rw [toSer_inputs_length]
        exact (List.getElem?_eq_some_iff.mp hi).1
      have hnp := txChecker_neverPanics E.dsha E.K (ctxOf E tx j out) hj
      cases hv : CG.Model.TxScript.validateInput E.H (txChecker E.dsha E.K (ctxOf E tx j out)) Cache.empty
          tin.unlockScript out.lockScript (flagsFor E.useGenesis (E.pregenesis tin.prevOutput)) with
      | ok u => simp
      | err e => simp
      | panic p => exact absurd hv (validateInput_ne_panic E.H _ hnp _ _ _ _ p)

/-- **`Tx::validate` never panics** — the checks before the loop (C04), the `unwrap` of the unspent
    output, every script evaluation with the real checker (C07), the signature hash (C02): for every
    transaction, map, profile, rule set, FORKID mode, hash functions and k256 behaviour. -/
theorem C07_validate_tx_no_panic (E : Env Sig Key) (p : CG.Model.TxValidate.Profile)
    (tx : CG.Model.TxValidate.Tx) (utxos : CG.Model.TxValidate.Utxos) (s : String) :
    validateTx E p tx utxos ≠ .panic s := by
  rw [C03_validate_tx_cache_transparent]
  exact CG.Props.C04.C04_never_panics p E.useGenesis tx utxos _ (C07_fresh_input_no_panic E tx utxos) s

/-- what acceptance of input `j` means for the three key-locked templates, with the REAL checker -/
def InputAuthorised (E : Env Sig Key) (tx : CG.Model.TxValidate.Tx) (j : Nat) (tin : CG.Model.TxValidate.TxIn)
    (out : CG.Model.TxValidate.TxOut) : Prop :=
  let x := ctxOf E tx j out
  let flags := flagsFor E.useGenesis (E.pregenesis tin.prevOutput)
  let run := coreEval E.H (txChecker E.dsha E.K x) Cache.empty tin.unlockScript flags none none none none
  (∀ h : Bytes, h.length = 20 → out.lockScript = p2pkhLock h →
    ∃ r1 pk sig rest, run = .ok r1 ∧ r1.stack = pk :: sig :: rest ∧ E.H.hash160 pk = h ∧
      SigValid E.dsha E.K x sig pk (cleaned (p2pkhLock h) 0 sig)) ∧
  (∀ pk : Bytes, 1 ≤ pk.length → pk.length ≤ 75 → out.lockScript = p2pkLock pk →
    ∃ r1 sig rest, run = .ok r1 ∧ r1.stack = sig :: rest ∧
      SigValid E.dsha E.K x sig pk (cleaned (p2pkLock pk) 0 sig)) ∧
  (∀ (m : Nat) (keys : List Bytes), 1 ≤ m → m ≤ keys.length → keys.length ≤ 16 →
    (∀ k ∈ keys, 1 ≤ k.length ∧ k.length ≤ 75) → out.lockScript = multisigLock m keys →
    ∃ r1 sigs dummy rest used, run = .ok r1 ∧ r1.stack = sigs ++ dummy :: rest ∧ sigs.length = m ∧
      used.length = m ∧ used.Sublist keys.reverse ∧
      ∀ q ∈ sigs.zip used, SigValid E.dsha E.K x q.1 q.2 (msCleaned (multisigLock m keys) sigs))

/-- acceptance of ONE input by the two-phase check with the real checker (fresh cache) authorises it -/
theorem C03_input_authorised (E : Env Sig Key) (tx : CG.Model.TxValidate.Tx) (j : Nat)
    (tin : CG.Model.TxValidate.TxIn) (out : CG.Model.TxValidate.TxOut)
    (hv : CG.Model.TxScript.validateInput E.H (txChecker E.dsha E.K (ctxOf E tx j out)) Cache.empty
      tin.unlockScript out.lockScript (flagsFor E.useGenesis (E.pregenesis tin.prevOutput)) = .ok ()) :
    InputAuthorised E tx j tin out := by
  have hI := txChecker_insensitive E.dsha E.K (ctxOf E tx j out)
  have h0 := cacheOk_empty E.dsha (ctxOf E tx j out).tx
  refine ⟨?_, ?_, ?_⟩
  · intro h hh hl
    rw [hl] at hv
    obtain ⟨r1, pk, sig, rest, e1, e2, e3, e4⟩ :=
      CG.Props.C03.C03_authorisation_p2pkh E.H _ Cache.empty tin.unlockScript h hh _ hv
    have hc1 := coreEval_inv hI E.H Cache.empty h0 _ _ _ _ _ _ r1 e1
    exact ⟨r1, pk, sig, rest, e1, e2, e3,
      (C03_check_sig_iff_fresh E.dsha E.K _ r1.chk hc1 sig pk _).mp e4⟩
  · intro pk h1 h2 hl
    rw [hl] at hv
    obtain ⟨r1, sig, rest, e1, e2, e4⟩ :=
      CG.Props.C03.C03_authorisation_p2pk E.H _ Cache.empty tin.unlockScript pk h1 h2 _ hv
    have hc1 := coreEval_inv hI E.H Cache.empty h0 _ _ _ _ _ _ r1 e1
    exact ⟨r1, sig, rest, e1, e2, (C03_check_sig_iff_fresh E.dsha E.K _ r1.chk hc1 sig pk _).mp e4⟩
  · intro m keys h1 h2 h3 hk hl
    rw [hl] at hv
    obtain ⟨r1, sigs, dummy, rest, c2, e1, e2, e3, e4⟩ :=
      CG.Props.C03.C03_authorisation_multisig E.H _ Cache.empty tin.unlockScript m keys h1 h2 h3 hk _ hv
    have hc1 := coreEval_inv hI E.H Cache.empty h0 _ _ _ _ _ _ r1 e1
    obtain ⟨used, hsub, hlen, hall⟩ := e4.sublist_of (fun c s k hc => hI.inv c s k _ hc) hc1
    refine ⟨r1, sigs, dummy, rest, used, e1, e2, e3, by omega, hsub, ?_⟩
    intro q hq
    obtain ⟨c1, hi1, hq1⟩ := hall q hq
    exact (C03_check_sig_iff_fresh E.dsha E.K _ c1 hi1 q.1 q.2 _).mp hq1

/-- **soundness of `Tx::validate`**: if the transaction is accepted then
    (1) C04's conservation specification holds (inputs present and pairwise distinct, exact sums in
        range, outputs ≤ inputs, lock time, no coinbase reference, every script check passes), and
    (2) every input spending a P2PKH, P2PK or m-of-n multisig output is authorised: on the stack left
        by its unlocking script there is a signature (resp. `m` signatures under distinct keys, in key
        order) that parses, whose key is (hashes to) the locked one, and that `verify`s over the digest
        of THIS transaction, THIS input index, the spent amount and the locking script as script code,
        under the signature's own type byte, with the FORKID requirement met. -/
theorem C03_validate_tx_sound (E : Env Sig Key) (p : CG.Model.TxValidate.Profile)
    (tx : CG.Model.TxValidate.Tx) (utxos : CG.Model.TxValidate.Utxos)
    (h : validateTx E p tx utxos = .ok ()) :
    CG.Spec.Conservation.Accepts (CG.Proofs.TxValidate.viewOf tx utxos (freshInput E tx utxos)) ∧
    ∀ (j : Nat) (tin : CG.Model.TxValidate.TxIn), tx.inputs[j]? = some tin →
      ∃ out, utxos tin.prevOutput = some out ∧ InputAuthorised E tx j tin out := by
  rw [C03_validate_tx_cache_transparent] at h
  have hacc := CG.Props.C04.C04_accept_implies_spec p E.useGenesis tx utxos _ h
  refine ⟨hacc, ?_⟩
  intro j tin hj
  have hjl : j < tx.inputs.length := (List.getElem?_eq_some_iff.mp hj).1
  have hpass := hacc.scripts j (by simpa [CG.Proofs.TxValidate.viewOf] using hjl)
  have hok : freshInput E tx utxos j = .ok true :=
    (CG.Proofs.TxValidate.passes_iff _).mp hpass
  unfold freshInput at hok
  rw [hj] at hok
  simp only [] at hok
  cases hu : utxos tin.prevOutput with
  | none => rw [hu] at hok; simp at hok
  | some out =>
    rw [hu] at hok
    simp only [] at hok
    refine ⟨out, rfl, C03_input_authorised E tx j tin out ?_⟩
    cases hv : CG.Model.TxScript.validateInput E.H (txChecker E.dsha E.K (ctxOf E tx j out)) Cache.empty
        tin.unlockScript out.lockScript (flagsFor E.useGenesis (E.pregenesis tin.prevOutput)) with
    | ok u => rfl
    | err e => rw [hv] at hok; simp at hok
    | panic q => rw [hv] at hok; simp at hok

/-- **no valid signature, no spend**: if no signature `verify`s under any key hashing to `h` over any
    digest, no transaction whatsoever that spends a P2PKH output locked to `h` is accepted. -/
theorem C03_validate_tx_no_signature_no_spend_p2pkh (E : Env Sig Key) (p : CG.Model.TxValidate.Profile)
    (tx : CG.Model.TxValidate.Tx) (utxos : CG.Model.TxValidate.Utxos) (j : Nat)
    (tin : CG.Model.TxValidate.TxIn) (out : CG.Model.TxValidate.TxOut) (h : Bytes) (hh : h.length = 20)
    (hj : tx.inputs[j]? = some tin) (hu : utxos tin.prevOutput = some out) (hl : out.lockScript = p2pkhLock h)
    (hno : ∀ pk k d s, E.H.hash160 pk = h → E.K.parseKey pk = some k → E.K.verify k d s = false) :
    validateTx E p tx utxos ≠ .ok () := by
  intro hv
  obtain ⟨-, hall⟩ := C03_validate_tx_sound E p tx utxos hv
  obtain ⟨out', hu', ha⟩ := hall j tin hj
  rw [hu] at hu'
  cases hu'
  obtain ⟨r1, pk, sig, rest, -, -, hp, der, ty, digest, s, k, -, -, -, -, hk, hvf⟩ := ha.1 h hh hl
  rw [hno pk k digest s hp hk] at hvf
  exact absurd hvf (by simp)

/-! ## the hypotheses are satisfiable -/

/-- stand-ins for the k256 calls: everything parses (to itself); `verify` accepts exactly when the
    "signature" equals the key … enough to exercise both verdicts -/
def K1 : K256 Bytes Bytes := ⟨fun b => some b, fun b => some b, fun k _ s => s == k⟩

def env1 : Env Bytes Bytes :=
  { H := CG.Props.C03.noHashes, dsha := id, K := K1, requireForkid := true, useGenesis := true,
    pregenesis := fun _ => false }

def op1 : CG.Model.TxValidate.OutPoint := ⟨List.replicate 32 5, 0⟩
/-- spends a pay-to-public-key output `<07> OP_CHECKSIG` with the "signature" `07 41` (type ALL|FORKID) -/
def tx1 : CG.Model.TxValidate.Tx :=
  { version := 2, inputs := [⟨op1, [2, 0x07, 0x41], 0xffffffff⟩], outputs := [⟨90, [0x51]⟩], lockTime := 0 }
def utxo1 : CG.Model.TxValidate.Utxos := fun o => if o = op1 then some ⟨100, [1, 0x07, 0xac]⟩ else none

example : validateTx env1 .dev tx1 utxo1 = .ok () := by decide +kernel
/-- without the FORKID bit the same spend is refused by the checker (`ScriptError`) … -/
example : validateTx env1 .dev { tx1 with inputs := [⟨op1, [2, 0x07, 0x01], 0xffffffff⟩] } utxo1
    = .err "ScriptError" := by decide +kernel
/-- … a signature that does not verify leaves `false` on the stack … -/
example : validateTx env1 .dev { tx1 with inputs := [⟨op1, [2, 0x08, 0x41], 0xffffffff⟩] } utxo1
    = .err "ScriptError" := by decide +kernel
/-- … and creating value is refused before any script runs -/
example : validateTx env1 .dev { tx1 with outputs := [⟨101, [0x51]⟩] } utxo1 = .err "BadData" := by
  decide +kernel
example : (0 : Nat) < (toSer tx1).inputs.length := by decide

end CG.Props.TxChecker
