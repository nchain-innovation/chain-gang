import CG.Proofs.TxValidate
/-!
# C04 — Transaction validation conserves value using exact arithmetic

Model: `CG.Model.TxValidate` (mirrors `Tx::validate`, `Blocktxn::validate`,
`PrefilledTransaction::validate`/`Cmpctblock::validate`; `i64` sums per build profile; the per-input
script evaluation is an oracle).  Specification: `CG.Spec.Conservation` (exact integers).
`validate`, `blocktxnValidate`, `cmpctblockValidate` are the model of the tree with
`C04-checked-sums.patch` and `C04-duplicate-inputs.patch` applied; `validateWith .pinned` is the
model of the tree as pinned, for which the property is refuted by the witnesses at the end.

Every theorem quantifies over: all transactions (any number of inputs and outputs, amounts over all
integers — in particular all of `Int64`), all unspent-output maps (arbitrary partial functions), all
script oracles (which covers both FORKID-requirement modes and every pre-genesis set), both rule sets
(`g`) and both build profiles (`p`).
-/
namespace CG.Props.C04
open CG CG.Model.TxValidate CG.Proofs.TxValidate
open CG.Spec.Conservation (Accepts PayloadAccepts acceptsB accepts_iff)

/-- table obligation: the limit compiled into the current tree is 21 million coins -/
theorem C04_max_satoshis_is_21M : CG.Generated.MAX_SATOSHIS = 2100000000000000 := by decide

theorem C04_max_satoshis_is_spec_limit : MAX = CG.Spec.Conservation.MAX_MONEY := MAX_eq_spec

/-- **accept ⇒ spec**: whatever is accepted satisfies every clause of the conservation
    specification (inputs present and pairwise distinct, no negative amount, both exact sums within the
    limit, outputs ≤ inputs, lock time ≤ 2^31-1, no coinbase reference, every script passes). -/
theorem C04_accept_implies_spec (p : Profile) (g : Bool) (tx : Tx) (utxos : Utxos)
    (scriptOk : Nat → Outcome Bool) (h : validate p g tx utxos scriptOk = .ok ()) :
    Accepts (viewOf tx utxos scriptOk) :=
  ((validate_ok_iff p g tx utxos scriptOk).mp h).2.2.1

/-- exact characterisation: acceptance = specification ∧ the two non-emptiness rules ∧ the
    P2SH-sunset rule (so the specification is not vacuously strong: everything it admits and the
    extra rules admit is accepted). -/
theorem C04_accept_iff (p : Profile) (g : Bool) (tx : Tx) (utxos : Utxos)
    (scriptOk : Nat → Outcome Bool) :
    validate p g tx utxos scriptOk = .ok () ↔
      (tx.inputs ≠ [] ∧ tx.outputs ≠ [] ∧ Accepts (viewOf tx utxos scriptOk) ∧
        ¬ (g = true ∧ tx.outputs.any (fun o => isP2sh o.lockScript) = true)) :=
  validate_ok_iff p g tx utxos scriptOk

/-- **never panics**: for no combination of amounts, map, lock time or profile does validation
    panic — provided the script interpreter itself does not (that is property C07). -/
theorem C04_never_panics (p : Profile) (g : Bool) (tx : Tx) (utxos : Utxos)
    (scriptOk : Nat → Outcome Bool) (hs : ∀ j s, scriptOk j ≠ .panic s) :
    ∀ s, validate p g tx utxos scriptOk ≠ .panic s :=
  validate_no_panic p g tx utxos scriptOk hs

/-- **never wraps**: the two build profiles compute the same verdict on every input — the `i64`
    additions that are reached are exact. -/
theorem C04_profile_independent (g : Bool) (tx : Tx) (utxos : Utxos) (scriptOk : Nat → Outcome Bool) :
    validate .dev g tx utxos scriptOk = validate .release g tx utxos scriptOk :=
  validate_profile g tx utxos scriptOk

/-- **every other case is an error**: a transaction that does not satisfy the specification is
    rejected with `Err`, not accepted and not a panic. -/
theorem C04_reject_is_error (p : Profile) (g : Bool) (tx : Tx) (utxos : Utxos)
    (scriptOk : Nat → Outcome Bool) (hs : ∀ j s, scriptOk j ≠ .panic s)
    (hn : ¬ Accepts (viewOf tx utxos scriptOk)) :
    ∃ e, validate p g tx utxos scriptOk = .err e := by
  cases h : validate p g tx utxos scriptOk with
  | ok u => cases u; exact absurd (C04_accept_implies_spec p g tx utxos scriptOk h) hn
  | err e => exact ⟨e, rfl⟩
  | panic s => exact absurd h (C04_never_panics p g tx utxos scriptOk hs s)

/-! ### the same for the block-transactions and compact-block payload validators -/

theorem C04_blocktxn_accept_implies_spec (p : Profile) (txs : List Tx)
    (h : blocktxnValidate p txs = .ok ()) :
    ∀ tx ∈ txs, PayloadAccepts (tx.outputs.map (·.satoshis)) :=
  fun tx ht => ((payloadLoop_spec p txs).2.mp h tx ht).2.2

theorem C04_blocktxn_never_panics (p : Profile) (txs : List Tx) :
    ∀ s, blocktxnValidate p txs ≠ .panic s := (payloadLoop_spec p txs).1

theorem C04_blocktxn_reject_is_error (p : Profile) (txs : List Tx)
    (hn : ¬ ∀ tx ∈ txs, PayloadAccepts (tx.outputs.map (·.satoshis))) :
    ∃ e, blocktxnValidate p txs = .err e := by
  cases h : blocktxnValidate p txs with
  | ok u => cases u; exact absurd (C04_blocktxn_accept_implies_spec p txs h) hn
  | err e => exact ⟨e, rfl⟩
  | panic s => exact absurd h (C04_blocktxn_never_panics p txs s)

theorem C04_cmpctblock_accept_implies_spec (p : Profile) (prefilled : List Tx)
    (h : cmpctblockValidate p prefilled = .ok ()) :
    ∀ tx ∈ prefilled, PayloadAccepts (tx.outputs.map (·.satoshis)) :=
  fun tx ht => ((payloadLoop_spec p prefilled).2.mp h tx ht).2.2

theorem C04_cmpctblock_never_panics (p : Profile) (prefilled : List Tx) :
    ∀ s, cmpctblockValidate p prefilled ≠ .panic s := (payloadLoop_spec p prefilled).1

theorem C04_cmpctblock_reject_is_error (p : Profile) (prefilled : List Tx)
    (hn : ¬ ∀ tx ∈ prefilled, PayloadAccepts (tx.outputs.map (·.satoshis))) :
    ∃ e, cmpctblockValidate p prefilled = .err e := by
  cases h : cmpctblockValidate p prefilled with
  | ok u => cases u; exact absurd (C04_cmpctblock_accept_implies_spec p prefilled h) hn
  | err e => exact ⟨e, rfl⟩
  | panic s => exact absurd h (C04_cmpctblock_never_panics p prefilled s)

theorem C04_payload_profile_independent (txs : List Tx) :
    blocktxnValidate .dev txs = blocktxnValidate .release txs ∧
    cmpctblockValidate .dev txs = cmpctblockValidate .release txs :=
  ⟨payloadLoop_profile txs, payloadLoop_profile txs⟩

/-! ### the loop invariant, stated on its own (`acc = Σ prefix ∧ 0 ≤ acc ≤ bound`) -/

theorem C04_sum_invariant (p : Profile) (xs : List (Option Int)) (acc : Int) (h0 : 0 ≤ acc)
    (hM : acc ≤ MAX) (tot : Int) (h : sumLoop .repaired p acc xs = .ok tot) :
    ∃ ys : List Int, xs = ys.map some ∧ (∀ y ∈ ys, 0 ≤ y) ∧
      tot = acc + CG.Spec.Conservation.total ys ∧ 0 ≤ tot ∧ tot ≤ MAX :=
  (sumLoop_repaired p xs acc h0 hM).2 tot h

/-! ### non-vacuity: the hypotheses are satisfiable and the accepting case exists -/

def opA : OutPoint := ⟨List.replicate 32 5, 3⟩
def opB : OutPoint := ⟨List.replicate 32 6, 0⟩
def utxoAB : Utxos := fun o => if o = opA then some ⟨100, [0x51]⟩ else if o = opB then some ⟨50, [0x51]⟩ else none
def txGood : Tx := { inputs := [⟨opA, [], 0⟩, ⟨opB, [], 0⟩], outputs := [⟨10, []⟩, ⟨140, []⟩], lockTime := 0 }

example : validate .dev true txGood utxoAB (fun _ => .ok true) = .ok () := by decide
example : validate .release false txGood utxoAB (fun _ => .ok true) = .ok () := by decide
example : Accepts (viewOf txGood utxoAB (fun _ => .ok true)) :=
  C04_accept_implies_spec .dev true txGood utxoAB _ (by decide)
example : ∃ e, validate .dev true { txGood with lockTime := 2 ^ 31 } utxoAB (fun _ => .ok true) = .err e :=
  ⟨"BadData", by decide⟩

/-! ### witnesses: the PINNED code's model violates the property

The full-strength statements about the pinned tree are kept as `Prop`s and refuted. -/

def I64_MAX : Int := 2 ^ 63 - 1

/-- two outputs of `i64::MAX` each, spending one 0-satoshi output -/
def txOverflow : Tx := { inputs := [⟨opA, [], 0⟩], outputs := [⟨I64_MAX, []⟩, ⟨I64_MAX, []⟩], lockTime := 0 }
def utxoZero : Utxos := fun o => if o = opA then some ⟨0, [0x51]⟩ else none

/-- two inputs spending the same 100-satoshi output, 200 satoshis out -/
def txDouble : Tx := { inputs := [⟨opA, [], 0⟩, ⟨opA, [], 1⟩], outputs := [⟨200, []⟩], lockTime := 0 }

def C04_accept_implies_spec_pinned : Prop :=
  ∀ (p : Profile) (g : Bool) (tx : Tx) (utxos : Utxos) (scriptOk : Nat → Outcome Bool),
    validateWith .pinned p g tx utxos scriptOk = .ok () → Accepts (viewOf tx utxos scriptOk)

def C04_never_panics_pinned : Prop :=
  ∀ (p : Profile) (g : Bool) (tx : Tx) (utxos : Utxos) (scriptOk : Nat → Outcome Bool),
    (∀ j s, scriptOk j ≠ .panic s) → ∀ s, validateWith .pinned p g tx utxos scriptOk ≠ .panic s

/-- release profile: the output sum wraps to -2 and the transaction — which creates
    2·(2^63-1) satoshis out of nothing — passes every check. -/
theorem C04_witness_pinned_release_wraps :
    validateWith .pinned .release true txOverflow utxoZero (fun _ => .ok true) = .ok () ∧
    checkedSum .pinned .release (outAmounts txOverflow.outputs) = .ok (-2) ∧
    acceptsB (viewOf txOverflow utxoZero (fun _ => .ok true)) = false := by decide

/-- dev profile: the same transaction panics -/
theorem C04_witness_pinned_dev_panics :
    validateWith .pinned .dev true txOverflow utxoZero (fun _ => .ok true)
      = .panic "attempt to add with overflow" := by decide

/-- both profiles: an output spent by two inputs of one transaction is accepted (200 out of 100) -/
theorem C04_witness_pinned_duplicate_inputs (p : Profile) :
    validateWith .pinned p true txDouble utxoAB (fun _ => .ok true) = .ok () ∧
    acceptsB (viewOf txDouble utxoAB (fun _ => .ok true)) = false := by
  cases p <;> decide

/-- the payload validators of the pinned tree: wrap in release, panic in dev -/
theorem C04_witness_pinned_payload :
    blocktxnValidateWith .pinned .release [txOverflow] = .ok () ∧
    cmpctblockValidateWith .pinned .release [txOverflow] = .ok () ∧
    blocktxnValidateWith .pinned .dev [txOverflow] = .panic "attempt to add with overflow" ∧
    cmpctblockValidateWith .pinned .dev [txOverflow] = .panic "attempt to add with overflow" ∧
    CG.Spec.Conservation.payloadAcceptsB (txOverflow.outputs.map (·.satoshis)) = false := by decide

theorem C04_pinned_violates_accept_implies_spec : ¬ C04_accept_implies_spec_pinned := by
  intro h
  have := h .release true txOverflow utxoZero (fun _ => .ok true) C04_witness_pinned_release_wraps.1
  rw [← accepts_iff, C04_witness_pinned_release_wraps.2.2] at this
  exact absurd this (by decide)

theorem C04_pinned_violates_distinct_inputs :
    ¬ ∀ (p : Profile) (tx : Tx) (utxos : Utxos),
      validateWith .pinned p true tx utxos (fun _ => .ok true) = .ok () →
      (tx.inputs.map (·.prevOutput)).Pairwise (· ≠ ·) := by
  intro h
  have := h .dev txDouble utxoAB (C04_witness_pinned_duplicate_inputs .dev).1
  revert this
  decide

theorem C04_pinned_violates_never_panics : ¬ C04_never_panics_pinned := by
  intro h
  exact h .dev true txOverflow utxoZero (fun _ => .ok true) (by simp) _ C04_witness_pinned_dev_panics

/-- the repaired model rejects all three witnesses with an error, in both profiles -/
theorem C04_repaired_rejects_witnesses (p : Profile) :
    validate p true txOverflow utxoZero (fun _ => .ok true) = .err "BadData" ∧
    validate p true txDouble utxoAB (fun _ => .ok true) = .err "BadData" ∧
    blocktxnValidate p [txOverflow] = .err "BadData" ∧
    cmpctblockValidate p [txOverflow] = .err "BadData" := by
  cases p <;> decide

end CG.Props.C04
