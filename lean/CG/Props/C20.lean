import CG.Proofs.Bloom
/-!
# C20 — Bloom filters: no false negatives, BIP-37 bit positions, no panic, limits, filterload

Property theorems only.  Model: `CG.Model.Bloom` (mirrors `util/bloom_filter.rs`,
`messages/filter_load.rs`, `util/var_int.rs`); specification: `CG.Spec.Bip37Bloom`.
The MurmurHash3 crate is a parameter `H : UInt32 → Bytes → UInt32` (seed, data): every theorem holds
for whatever it computes.  `dbg` ranges over the two build profiles (overflow checks on / off).
The bound `len < 2^29` is where `len as u32 * 8` stops fitting in a `u32`; it is 14 913 times the
protocol limit of 36 000 bytes and 16 times `MAX_PAYLOAD_SIZE`.
-/
namespace CG.Props.C20
open CG CG.Model.Bloom CG.Proofs.Bloom
open CG.Spec.Bip37Bloom (getBit setBitAt position positions seed)

/-- the limits compiled into the current tree are BIP-37's (36 000 bytes, 50 functions) -/
theorem C20_limits_are_bip37 :
    maxFilterSize = Spec.Bip37Bloom.maxFilterSize ∧ maxHashFuncs = Spec.Bip37Bloom.maxHashFuncs := by
  decide

/-- bits are only ever set: an `add` never clears a bit of the field -/
theorem C20_add_monotone (H : HashFn) (dbg : Bool) (f f' : BloomFilter) (data : Bytes)
    (hl : f.filter.length < 2 ^ 29) (h : add H dbg f data = .ok f') (j : Nat)
    (hj : getBit f.filter j = true) : getBit f'.filter j = true := by
  rw [add_eq_spec H dbg f data hl] at h
  injection h with h
  subst h
  exact getBit_insert_mono H _ _ _ data j hj

/-- the set of bit indexes of an element is
    `{ murmur3(seed = (i·0xFBA4C795 + tweak) mod 2^32, data) mod nbits | i < nHash }` -/
theorem C20_positions_formula (H : HashFn) (nbits nHash tweak : Nat) (data : Bytes) (j : Nat) :
    j ∈ positions H nbits nHash tweak data ↔
      ∃ i, i < nHash ∧
        j = (H (UInt32.ofNat ((i * 0xFBA4C795 + tweak) % 2 ^ 32)) data).toNat % nbits := by
  simp only [positions, position, seed, List.mem_map, List.mem_range]
  constructor
  · rintro ⟨i, hi, rfl⟩
    exact ⟨i, hi, rfl⟩
  · rintro ⟨i, hi, rfl⟩
    exact ⟨i, hi, rfl⟩

/-- bit `idx` lives in byte `idx / 8` at bit `idx mod 8` (`vData[idx >> 3] & (1 << (idx & 7))`) -/
theorem C20_bit_layout (flt : Bytes) (idx : Nat) :
    getBit flt idx = (flt.getD (idx / 8) 0).toNat.testBit (idx % 8) := rfl

/-- **Bit positions.**  `add` on a non-empty filter succeeds, keeps length, function count and tweak,
    and afterwards bit `j` is set iff it was set before or `j` is one of the element's BIP-37
    positions over `8·len` bits — no other bit changes. -/
theorem C20_bit_positions (H : HashFn) (dbg : Bool) (f : BloomFilter) (data : Bytes)
    (h0 : 0 < f.filter.length) (hl : f.filter.length < 2 ^ 29) :
    ∃ f', add H dbg f data = .ok f' ∧ f'.filter.length = f.filter.length ∧
      f'.numHashFuncs = f.numHashFuncs ∧ f'.tweak = f.tweak ∧
      ∀ j, getBit f'.filter j =
        (getBit f.filter j ||
          decide (j ∈ positions H (8 * f.filter.length) f.numHashFuncs f.tweak data)) :=
  ⟨_, add_eq_spec H dbg f data hl, insert_length .., rfl, rfl,
    fun j => getBit_insert H f.filter _ _ data j h0⟩

/-- `add` and `contains` are the BIP-37 reference insertion / query (Bitcoin Core's behaviour on
    an empty bit field: insertion is a no-op, the query answers `true`). -/
theorem C20_add_contains_eq_spec (H : HashFn) (dbg : Bool) (f : BloomFilter) (data : Bytes)
    (hl : f.filter.length < 2 ^ 29) :
    add H dbg f data =
      .ok { f with filter := Spec.Bip37Bloom.insert H f.filter f.numHashFuncs f.tweak data } ∧
    contains H dbg f data = .ok (Spec.Bip37Bloom.contains H f.filter f.numHashFuncs f.tweak data) :=
  ⟨add_eq_spec H dbg f data hl, contains_eq_spec H dbg f data hl⟩

/-- the query answers `true` exactly when every one of the element's positions is set -/
theorem C20_contains_iff (H : HashFn) (dbg : Bool) (f : BloomFilter) (data : Bytes)
    (h0 : 0 < f.filter.length) (hl : f.filter.length < 2 ^ 29) :
    contains H dbg f data = .ok true ↔
      ∀ i, i < f.numHashFuncs →
        getBit f.filter (position H (8 * f.filter.length) f.tweak data i) = true := by
  rw [contains_eq_spec H dbg f data hl]
  simp [Spec.Bip37Bloom.contains, isEmpty_of_length_pos h0, positions]

/-- **The bit field after any list of insertions**, exactly: bit `j` is set iff it was set before or
    `j` is a BIP-37 position of one of the elements.  Length, function count and tweak are kept.
    (The right-hand side does not depend on the order of `ds`: any permutation, and any repetition,
    of the elements gives the same bits.) -/
theorem C20_addAll_bits (H : HashFn) (dbg : Bool) (ds : List Bytes) (f : BloomFilter)
    (h0 : 0 < f.filter.length) (hl : f.filter.length < 2 ^ 29) :
    ∃ f2, addAll H dbg f ds = .ok f2 ∧ f2.filter.length = f.filter.length ∧
      f2.numHashFuncs = f.numHashFuncs ∧ f2.tweak = f.tweak ∧
      ∀ j, getBit f2.filter j =
        (getBit f.filter j ||
          ds.any (fun d => decide (j ∈ positions H (8 * f.filter.length) f.numHashFuncs f.tweak d))) :=
  let ⟨f2, e, l2, n2, t2, b2⟩ := addAll_bits H dbg ds f hl
  ⟨f2, e, l2, n2, t2, b2 h0⟩

/-- order and multiplicity of insertions are irrelevant: two lists with the same elements give the same bits -/
theorem C20_addAll_order_irrelevant (H : HashFn) (dbg : Bool) (ds es : List Bytes) (f f1 f2 : BloomFilter)
    (h0 : 0 < f.filter.length) (hl : f.filter.length < 2 ^ 29) (hse : ∀ d, d ∈ ds ↔ d ∈ es)
    (h1 : addAll H dbg f ds = .ok f1) (h2 : addAll H dbg f es = .ok f2) (j : Nat) :
    getBit f1.filter j = getBit f2.filter j := by
  obtain ⟨x, ex, _, _, _, bx⟩ := C20_addAll_bits H dbg ds f h0 hl
  obtain ⟨y, ey, _, _, _, by'⟩ := C20_addAll_bits H dbg es f h0 hl
  rw [h1] at ex
  rw [h2] at ey
  cases ex
  cases ey
  rw [bx j, by' j]
  congr 1
  rw [Bool.eq_iff_iff]
  simp only [List.any_eq_true, decide_eq_true_eq]
  exact ⟨fun ⟨d, hd, hp⟩ => ⟨d, (hse d).mp hd, hp⟩, fun ⟨d, hd, hp⟩ => ⟨d, (hse d).mpr hd, hp⟩⟩

/-- **Insertion order is irrelevant.**  Adding `a` then `b`, or `b` then `a`, succeeds either way and
    yields filters of the same length, function count and tweak whose bit fields agree at every bit
    index — for every filter, hash function, tweak and profile. -/
theorem C20_add_commutes (H : HashFn) (dbg : Bool) (f : BloomFilter) (a b : Bytes)
    (hl : f.filter.length < 2 ^ 29) :
    ∃ fab fba, addAll H dbg f [a, b] = .ok fab ∧ addAll H dbg f [b, a] = .ok fba ∧
      fab.filter.length = fba.filter.length ∧ fab.numHashFuncs = fba.numHashFuncs ∧
      fab.tweak = fba.tweak ∧ ∀ j, getBit fab.filter j = getBit fba.filter j := by
  obtain ⟨fab, hab, l1, n1, t1, _⟩ := addAll_bits H dbg [a, b] f hl
  obtain ⟨fba, hba, l2, n2, t2, _⟩ := addAll_bits H dbg [b, a] f hl
  refine ⟨fab, fba, hab, hba, by rw [l1, l2], by rw [n1, n2], by rw [t1, t2], fun j => ?_⟩
  by_cases h0 : 0 < f.filter.length
  · exact C20_addAll_order_irrelevant H dbg [a, b] [b, a] f fab fba h0 hl (by simp [or_comm]) hab hba j
  · -- an empty bit field stays empty
    rw [List.eq_nil_of_length_eq_zero (by omega : fab.filter.length = 0),
      List.eq_nil_of_length_eq_zero (by omega : fba.filter.length = 0)]

/-- consequently no query can tell the two insertion orders apart -/
theorem C20_add_commutes_queries (H : HashFn) (dbg : Bool) (f fab fba : BloomFilter) (a b q : Bytes)
    (hl : f.filter.length < 2 ^ 29)
    (hab : addAll H dbg f [a, b] = .ok fab) (hba : addAll H dbg f [b, a] = .ok fba) :
    contains H dbg fab q = contains H dbg fba q := by
  obtain ⟨x, y, hx, hy, h1, h2, h3, h4⟩ := C20_add_commutes H dbg f a b hl
  rw [hab] at hx
  rw [hba] at hy
  cases hx
  cases hy
  -- `contains_congr` wants the bound on `fba`, whose bit field is as long as `f`'s
  obtain ⟨_, hba', l2, _⟩ := addAll_bits H dbg [b, a] f hl
  rw [hba] at hba'
  cases hba'
  exact contains_congr H dbg fba fab q (by rw [l2]; exact hl) h1 h2 h3 h4

/-- **When exactly a query answers `true` after a list of insertions** (the false-positive condition,
    stated outright): every one of the queried element's positions was set in the original field or is
    a position of one of the inserted elements. -/
theorem C20_contains_after_addAll_iff (H : HashFn) (dbg : Bool) (ds : List Bytes) (f f2 : BloomFilter)
    (q : Bytes) (h0 : 0 < f.filter.length) (hl : f.filter.length < 2 ^ 29)
    (h : addAll H dbg f ds = .ok f2) :
    contains H dbg f2 q = .ok true ↔
      ∀ i, i < f.numHashFuncs →
        (getBit f.filter (position H (8 * f.filter.length) f.tweak q i) = true ∨
         ∃ d ∈ ds, position H (8 * f.filter.length) f.tweak q i ∈
            positions H (8 * f.filter.length) f.numHashFuncs f.tweak d) := by
  obtain ⟨x, ex, l2, n2, t2, b2⟩ := C20_addAll_bits H dbg ds f h0 hl
  rw [h] at ex
  cases ex
  rw [C20_contains_iff H dbg f2 q (by rw [l2]; exact h0) (by rw [l2]; exact hl), l2, n2, t2]
  simp only [b2, Bool.or_eq_true, List.any_eq_true, decide_eq_true_eq]

/-- **No false negatives.**  After `add f data` — for every filter (empty ones included), every
    number of hash functions, every tweak, every hash function, both profiles — and after *any*
    list of further `add`s of other elements, `contains data` is `true`.  Nothing panics on the way. -/
theorem C20_add_then_contains (H : HashFn) (dbg : Bool) (f : BloomFilter) (data : Bytes)
    (others : List Bytes) (hl : f.filter.length < 2 ^ 29) :
    ∃ f1 f2, add H dbg f data = .ok f1 ∧ addAll H dbg f1 others = .ok f2 ∧
      contains H dbg f2 data = .ok true := by
  have h1 := add_eq_spec H dbg f data hl
  obtain ⟨f2, h2, l2, _⟩ := addAll_bits H dbg others
    { f with filter := Spec.Bip37Bloom.insert H f.filter f.numHashFuncs f.tweak data }
    (by simp only [insert_length]; exact hl)
  simp only [insert_length] at l2
  refine ⟨_, f2, h1, h2, ?_⟩
  by_cases h0 : 0 < f.filter.length
  · -- `data` is among the inserted elements, so each of its positions is a position of one of them
    have hall : addAll H dbg f (data :: others) = .ok f2 := by
      simp only [addAll]
      rw [h1]
      exact h2
    rw [C20_contains_after_addAll_iff H dbg (data :: others) f f2 data h0 hl hall]
    exact fun i hi => .inr ⟨data, List.mem_cons_self, List.mem_map_of_mem (List.mem_range.mpr hi)⟩
  · rw [contains_eq_spec H dbg f2 data (by omega), Spec.Bip37Bloom.contains,
      List.eq_nil_of_length_eq_zero (by omega : f2.filter.length = 0)]
    rfl

/-- **No panic** in `add`, `contains`, `validate` for every filter (empty ones included), every
    function count, tweak, element, hash function, in both profiles. -/
theorem C20_no_panic (H : HashFn) (dbg : Bool) (f : BloomFilter) (data : Bytes)
    (hl : f.filter.length < 2 ^ 29) (s : String) :
    add H dbg f data ≠ .panic s ∧ contains H dbg f data ≠ .panic s ∧ validate f ≠ .panic s := by
  refine ⟨?_, ?_, ?_⟩
  · rw [add_eq_spec H dbg f data hl]
    simp
  · rw [contains_eq_spec H dbg f data hl]
    simp
  · unfold validate
    split
    · simp
    · split <;> simp

/-- `validate` never panics, whatever the size -/
theorem C20_validate_total (f : BloomFilter) :
    validate f = .ok () ∨ validate f = .err "BadData" := by
  unfold validate
  split
  · exact .inr rfl
  · split
    · exact .inr rfl
    · exact .inl rfl

/-- `validate` accepts exactly the protocol limits -/
theorem C20_validate_iff (f : BloomFilter) :
    validate f = .ok () ↔ f.filter.length ≤ 36000 ∧ f.numHashFuncs ≤ 50 := by
  unfold validate
  have h1 : maxFilterSize = 36000 := by decide
  have h2 : maxHashFuncs = 50 := by decide
  rw [h1, h2]
  split
  next h => exact ⟨nofun, fun hle => by omega⟩
  next h =>
    split
    next h' => exact ⟨nofun, fun hle => by omega⟩
    next h' => exact ⟨fun _ => by omega, fun _ => rfl⟩

/-- decoding a `filterload` payload never panics; a filter decoded from any payload a peer can send
    (`≤ MAX_PAYLOAD_SIZE` bytes) never panics when used. -/
theorem C20_no_panic_decoded (H : HashFn) (dbg : Bool) (b : Bytes) (data : Bytes) (s : String) :
    flRead b ≠ .panic s ∧
    ∀ m r, flRead b = .ok (m, r) → b.length ≤ CG.Generated.MAX_PAYLOAD_SIZE →
      add H dbg m.bloom data ≠ .panic s ∧ contains H dbg m.bloom data ≠ .panic s ∧
      flValidate m ≠ .panic s := by
  constructor
  · exact flRead_ne_panic b s
  · intro m r h hb
    have hlen := (flRead_ok h).1
    have : CG.Generated.MAX_PAYLOAD_SIZE < 2 ^ 29 := by decide
    exact C20_no_panic H dbg m.bloom data (by omega) s

/-- the repair changes nothing on a non-empty bit field -/
theorem C20_fix_conservative (H : HashFn) (dbg : Bool) (f : BloomFilter) (data : Bytes)
    (h0 : 0 < f.filter.length) :
    addWith false H dbg f data = add H dbg f data ∧
    containsWith false H dbg f data = contains H dbg f data := by
  simp [add, contains, addWith, containsWith, isEmpty_of_length_pos h0]

/-- the full statement for the pinned tree (no early return) … -/
def C20_no_panic_pinned : Prop :=
  ∀ (H : HashFn) (dbg : Bool) (f : BloomFilter) (data : Bytes) (s : String),
    f.filter.length < 2 ^ 29 →
    addWith false H dbg f data ≠ .panic s ∧ containsWith false H dbg f data ≠ .panic s

/-- … is false: the ten-byte payload `00 01000000 00000000 00` decodes, passes `validate`, and the
    decoded filter (empty bit field, one hash function) panics in `add` and in `contains` (`% 0`),
    for every hash function, element and profile. -/
theorem C20_pinned_empty_filter_panics (H : HashFn) (dbg : Bool) (data : Bytes) :
    let f : BloomFilter := { filter := [], numHashFuncs := 1, tweak := 0 }
    flRead [0, 1, 0, 0, 0, 0, 0, 0, 0, 0] = .ok ({ bloom := f, flags := 0 }, []) ∧
    validate f = .ok () ∧
    addWith false H dbg f data = .panic "attempt to calculate the remainder with a divisor of zero" ∧
    containsWith false H dbg f data = .panic "attempt to calculate the remainder with a divisor of zero" := by
  refine ⟨by decide, by decide, ?_, ?_⟩
  · simp [addWith, addLoop, addStep, bitIndex, modulus]
  · simp [containsWith, containsLoop, bitIndex, modulus]

theorem C20_no_panic_pinned_false : ¬ C20_no_panic_pinned := by
  intro h
  have := (h (fun _ _ => 0) true { filter := [], numHashFuncs := 1, tweak := 0 } []
    "attempt to calculate the remainder with a divisor of zero" (by decide)).1
  exact this (C20_pinned_empty_filter_panics (fun _ _ => 0) true []).2.2.1

/-- **Constructor.**  Whatever the two floating-point size formulas evaluate to — any finite double
    (a rational), `+∞`, `-∞`, NaN — the filter built by `new` has at most 36 000 bytes (all zero) and
    at most 50 hash functions, passes `validate`, and `new` never panics. -/
theorem C20_constructor_within_limits (insertOk prOk : Bool) (sizeRaw nhRaw : F64v) (tweak : Nat) :
    (∀ s, new insertOk prOk sizeRaw nhRaw tweak ≠ .panic s) ∧
    ∀ f, new insertOk prOk sizeRaw nhRaw tweak = .ok f →
      f.filter.length ≤ 36000 ∧ f.numHashFuncs ≤ 50 ∧ validate f = .ok () ∧
      (∀ b ∈ f.filter, b = 0) ∧ f.tweak = tweak := by
  unfold new
  split
  · exact ⟨nofun, nofun⟩
  · split
    · exact ⟨nofun, nofun⟩
    · refine ⟨nofun, fun f hf => ?_⟩
      injection hf with hf
      subst hf
      have a : (List.replicate (sizeRaw.minConst maxFilterSize).ceilAsUsize (0 : UInt8)).length ≤ 36000 := by
        rw [List.length_replicate]
        exact minConst_ceil_le sizeRaw maxFilterSize
      have b : (nhRaw.minConst maxHashFuncs).ceilAsUsize ≤ 50 := minConst_ceil_le nhRaw maxHashFuncs
      exact ⟨a, b, (C20_validate_iff _).2 ⟨a, b⟩, fun x hx => (List.mem_replicate.mp hx).2, rfl⟩

/-- the model's `ceil` is the mathematical ceiling of `num / (den+1)` -/
theorem C20_ceil_is_ceiling (n : Int) (d : Nat) :
    n ≤ ceilDiv n d * ((d : Int) + 1) ∧ (ceilDiv n d - 1) * ((d : Int) + 1) < n :=
  ceilDiv_spec n d

/-- **Round trip.**  A filter within the protocol limits passes through the `filterload` encoding
    unchanged (any trailing bytes are left unread), and the encoding has `size()` bytes. -/
theorem C20_filterload_roundtrip (m : FilterLoad) (rest : Bytes) (hv : flValidate m = .ok ())
    (ht : m.bloom.tweak < 2 ^ 32) (hf : m.flags < 256) :
    flRead (flWrite m ++ rest) = .ok (m, rest) ∧ (flWrite m).length = flSize m := by
  have ⟨a, b⟩ := (C20_validate_iff m.bloom).1 hv
  exact ⟨flRead_write m rest (by omega) (by omega) ht hf, flSize_eq m⟩

/-- the round trip holds for every filter whose fields fit their wire types -/
theorem C20_filterload_roundtrip_any (m : FilterLoad) (rest : Bytes)
    (hlen : m.bloom.filter.length < 2 ^ 64) (hn : m.bloom.numHashFuncs < 2 ^ 32)
    (ht : m.bloom.tweak < 2 ^ 32) (hf : m.flags < 256) :
    flRead (flWrite m ++ rest) = .ok (m, rest) := flRead_write m rest hlen hn ht hf

/-- a decoded value re-encodes to what was consumed: decode → encode → decode is a fixpoint -/
theorem C20_filterload_decode_fixpoint (b r : Bytes) (m : FilterLoad) (hb : b.length < 2 ^ 64)
    (h : flRead b = .ok (m, r)) : flRead (flWrite m ++ r) = .ok (m, r) := by
  have ⟨a, b', c, d⟩ := flRead_ok h
  exact flRead_write m r (by omega) b' c d

/-- the bytes written are the BIP-37 `filterload` layout -/
theorem C20_filterload_layout (m : FilterLoad) (hv : flValidate m = .ok ()) :
    flWrite m =
      Spec.Bip37Bloom.filterload m.bloom.filter m.bloom.numHashFuncs m.bloom.tweak m.flags := by
  have ⟨a, _⟩ := (C20_validate_iff m.bloom).1 hv
  have hu : ∀ x, natToLEn 4 x = Spec.Bip37Bloom.u32le x := fun x => by
    simp [natToLEn, Spec.Bip37Bloom.u32le, Nat.div_div_eq_div_mul]
  unfold flWrite Spec.Bip37Bloom.filterload
  rw [hu, hu]
  congr 4
  unfold varIntWrite Spec.Bip37Bloom.compactSize
  by_cases h1 : m.bloom.filter.length ≤ 252
  · rw [if_pos h1, if_pos (by omega)]
  · rw [if_neg h1, if_pos (by omega), if_neg (by omega), if_pos (by omega)]
    have : m.bloom.filter.length / 256 % 256 = m.bloom.filter.length / 256 := by omega
    simp [natToLEn, this]

/-! ## Non-vacuity: the hypotheses are satisfiable, on both sides of each boundary -/

/-- a toy hash function (the seed itself) to make the examples computable by the kernel -/
private def toyH : HashFn := fun seed _ => seed

example : add toyH true ⟨[0, 0], 2, 3⟩ [7] = .ok ⟨[0x08, 0x01], 2, 3⟩ := by decide
example : contains toyH true ⟨[0x08, 0x01], 2, 3⟩ [7] = .ok true := by decide
example : contains toyH true ⟨[0x08, 0x00], 2, 3⟩ [7] = .ok false := by decide
example : add toyH false ⟨[], 1, 0⟩ [] = .ok ⟨[], 1, 0⟩ := by decide
example : addAll toyH true ⟨[0, 0], 2, 3⟩ [[7], [9]] = addAll toyH true ⟨[0, 0], 2, 3⟩ [[9], [7], [9]] := by decide
example : (0 : Nat) < ([0, 0] : Bytes).length ∧ ([0, 0] : Bytes).length < 2 ^ 29 := by decide
example : contains toyH false ⟨[], 1, 0⟩ [] = .ok true := by decide
example (flt : Bytes) (h : flt.length = 36000) : validate ⟨flt, 50, 0⟩ = .ok () :=
  (C20_validate_iff _).2 ⟨by simp [h], by simp⟩
example (flt : Bytes) (h : flt.length = 36001) : validate ⟨flt, 50, 0⟩ ≠ .ok () := by
  rw [Ne, C20_validate_iff]
  simp [h]
example : validate ⟨[], 51, 0⟩ = .err "BadData" := by decide
example : new true true (.fin 7 1) (.fin 11 2) 9 = .ok ⟨[0, 0, 0, 0], 4, 9⟩ := by decide
example : (F64v.posInf.minConst maxFilterSize).ceilAsUsize = 36000 := by decide
example : (F64v.nan.minConst maxHashFuncs).ceilAsUsize = 50 := by decide
example : ((F64v.fin 36000001 999).minConst maxFilterSize).ceilAsUsize = 36000 := by decide
example : ((F64v.fin 35999001 999).minConst maxFilterSize).ceilAsUsize = 36000 := by decide
example : ((F64v.fin 35999000 999).minConst maxFilterSize).ceilAsUsize = 35999 := by decide
example : (new true true .negInf (.fin (-5) 0) 9).map (fun f => (f.filter.length, f.numHashFuncs)) =
    .ok (0, 0) := by decide
example : new false true .nan .nan 0 = .err "BadArgument" := by decide
example : flWrite ⟨⟨[0xb5, 0x0f], 11, 0⟩, 1⟩ = [2, 0xb5, 0x0f, 11, 0, 0, 0, 0, 0, 0, 0, 1] := by decide
example : flRead [2, 0xb5, 0x0f, 11, 0, 0, 0, 0, 0, 0, 0, 1] = .ok (⟨⟨[0xb5, 0x0f], 11, 0⟩, 1⟩, []) := by
  decide
example : flRead [2, 0xb5, 0x0f, 11, 0, 0, 0, 0, 0, 0, 0] = .err "IoError" := by decide

end CG.Props.C20
