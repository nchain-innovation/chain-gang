import CG.Model.HashText
/-!
# The text form of a hash — property theorems (registered under C19)

`Hash256::encode` / `decode` (`CG.Model.HashText`): round trip for every 32-byte hash, the displayed string
denotes the little-endian number of the hash (the reading C19's proof-of-work comparison uses), decoding accepts
exactly the 64-digit strings (either case) and never panics.
-/
namespace CG.Props.HashText
open CG CG.Model.HashText

theorem nibble_roundtrip : ∀ n : Fin 16, charNibble (nibbleChar n.val) = some n.val := by decide

theorem byte_roundtrip (b : UInt8) :
    charNibble (nibbleChar (b.toNat / 16)) = some (b.toNat / 16) ∧
    charNibble (nibbleChar (b.toNat % 16)) = some (b.toNat % 16) := by
  have h1 : b.toNat / 16 < 16 := by have := b.toNat_lt; omega
  have h2 : b.toNat % 16 < 16 := Nat.mod_lt _ (by omega)
  exact ⟨nibble_roundtrip ⟨_, h1⟩, nibble_roundtrip ⟨_, h2⟩⟩

theorem hexDecode_hexEncode (b : Bytes) : hexDecode (hexEncode b) = some b := by
  induction b with
  | nil => rfl
  | cons x r ih =>
    obtain ⟨h1, h2⟩ := byte_roundtrip x
    simp only [hexEncode, hexDecode, h1, h2, ih]
    congr 2
    have : x.toNat / 16 * 16 + x.toNat % 16 = x.toNat := by omega
    rw [this]
    exact UInt8.ofNat_toNat

theorem hexEncode_length (b : Bytes) : (hexEncode b).length = 2 * b.length := by
  induction b with
  | nil => rfl
  | cons x r ih =>
    simp only [hexEncode, List.length_cons, ih]
    omega

/-- **Round trip**: every 32-byte hash is decoded back from its text form. -/
theorem C19_hash_text_roundtrip (h : Bytes) (h32 : h.length = 32) : decode (encode h) = .ok h := by
  simp [decode, encode, hexDecode_hexEncode, h32]

/-- the text form has 64 characters -/
theorem C19_hash_text_length (h : Bytes) (h32 : h.length = 32) : (encode h).length = 64 := by
  simp [encode, hexEncode_length, h32]

theorem hexDecode_length : ∀ (s : List Char) (b : Bytes), hexDecode s = some b → s.length = 2 * b.length
  | [], b, h => by cases h; rfl
  | [_], b, h => by cases h
  | a :: c :: r, b, h => by
    rw [hexDecode] at h
    split at h
    · rename_i x y t hx hy ht
      cases h
      rw [List.length_cons, List.length_cons, List.length_cons, hexDecode_length r t ht]
      omega
    · cases h

/-- **Decoding accepts exactly 64 hex digits and never panics**: a successful decode means the string had 64
    characters, and every other string is an error (`HexError` for a non-digit or an odd length, `BadArgument`
    for another even length). -/
theorem C19_hash_text_decode_total (s : List Char) :
    (∃ h, decode s = .ok h ∧ h.length = 32 ∧ s.length = 64) ∨ decode s = .err "HexError" ∨
    decode s = .err "BadArgument" := by
  unfold decode
  cases hd : hexDecode s with
  | none => exact Or.inr (Or.inl rfl)
  | some b =>
    by_cases hl : b.length = 32
    · left
      refine ⟨b.reverse, by simp [hl], by simp [hl], ?_⟩
      rw [hexDecode_length s b hd, hl]
    · exact Or.inr (Or.inr (by simp [hl]))

theorem foldl_hex (t : List Char) (acc : Nat) :
    t.foldl (fun acc c => acc * 16 + (charNibble c).getD 0) acc =
      acc * 16 ^ t.length + t.foldl (fun acc c => acc * 16 + (charNibble c).getD 0) 0 := by
  induction t generalizing acc with
  | nil => simp
  | cons c r ih =>
    simp only [List.foldl_cons, List.length_cons]
    rw [ih (acc * 16 + (charNibble c).getD 0), ih (0 * 16 + (charNibble c).getD 0)]
    rw [Nat.pow_succ]
    simp only [Nat.zero_mul, Nat.zero_add]
    rw [Nat.add_mul, Nat.mul_assoc, Nat.mul_comm 16 (16 ^ r.length)]
    omega

theorem hexNat_append (s t : List Char) :
    hexNat (s ++ t) = hexNat s * 16 ^ t.length + hexNat t := by
  unfold hexNat
  rw [List.foldl_append, foldl_hex]

theorem hexNat_two (b : UInt8) :
    hexNat [nibbleChar (b.toNat / 16), nibbleChar (b.toNat % 16)] = b.toNat := by
  obtain ⟨h1, h2⟩ := byte_roundtrip b
  simp only [hexNat, List.foldl_cons, List.foldl_nil, h1, h2, Option.getD_some]
  omega

theorem hexEncode_append (a b : Bytes) : hexEncode (a ++ b) = hexEncode a ++ hexEncode b := by
  induction a with
  | nil => rfl
  | cons x r ih => simp [hexEncode, ih]

/-- **The displayed string is the number**: read as a big-endian hex numeral, the text form of a hash denotes
    the little-endian number of its bytes — the number `BlockHeader::validate` compares with the target. -/
theorem C19_hash_text_is_le_number (h : Bytes) : hexNat (encode h) = leNat h := by
  unfold encode
  induction h with
  | nil => rfl
  | cons b r ih =>
    rw [List.reverse_cons, hexEncode_append, hexNat_append, ih]
    have : hexEncode [b] = [nibbleChar (b.toNat / 16), nibbleChar (b.toNat % 16)] := rfl
    rw [this, hexNat_two]
    simp only [leNat, List.length_cons, List.length_nil]
    omega

/-- `leNat` is the number `C19_ord_numeric` compares -/
theorem leNat_eq_leToNat (h : Bytes) : leNat h = leToNat h := by
  induction h with
  | nil => rfl
  | cons b r ih => rw [leNat, leToNat, ih]

example : encode [0x6f, 0xe2, 0x8c] = ['8', 'c', 'e', '2', '6', 'f'] := by decide
example : decode ['0', 'G'] = .err "HexError" := by decide
example : decode ['0', '1'] = .err "BadArgument" := by decide

end CG.Props.HashText
