import CG.Proofs.Base58
/-!
# C09 — Base58Check text codecs round-trip, detect corruption, never panic

Model: `CG.Model.Base58` (the `base58` crate as big-endian base conversion
with a 132-byte buffer; `base58_checksum.rs`, `address/mod.rs`, the WIF functions, `ExtendedKey`).
The checksum hash `H` (`sha256d`), `hash160` and `SigningKey::from_slice` (`keyOf`) are parameters;
the only fact used about `H` is that it returns at least four bytes (it returns a `[u8; 32]`).
`decodeChk true …`, `xkeyDecode true …`, `addressToPublicKeyHash true …` are the repaired functions
(`proposed_fixes/C09-short-input-length-checks.patch`), `false` the pinned tree.

What is NOT proved: that a corrupted string fails the checksum.  `C09_accept_needs_checksum` and
`C09_corruption_changes_payload` reduce acceptance of a corrupted string to a coincidence of the
32-bit checksum on *different* bytes; the absence of such coincidences is a property of double
SHA-256 (and false of any 32-bit checksum for counting reasons), see
`C09_single_edit_rejected_full` / `C09_single_edit_rejected_partial`.
-/
namespace CG.Props.C09
open CG CG.Model.Base58 CG.Proofs.Base58

/-- decoding an encoding gives the bytes back — every byte string, leading zeros included -/
theorem C09_b58_roundtrip (b : Bytes) : decode58 (encode58 b) = some b := decode58_encode58 b

/-- distinct digit strings decode to distinct byte strings (`encode58` is a left inverse) -/
theorem C09_b58_injective (d1 d2 : List Nat) (b : Bytes) (h1 : decode58 d1 = some b)
    (h2 : decode58 d2 = some b) : d1 = d2 := by
  rw [← encode58_decode58 d1 b h1, ← encode58_decode58 d2 b h2]

/-- the same on strings, through the crate model: two strings that `from_base58` maps to the same
    bytes are equal — so a substitution, insertion, deletion or transposition that yields a
    different string changes the decoded bytes (or makes decoding fail). -/
theorem C09_b58_string_injective (s1 s2 : List Char) (b : Bytes) (h1 : fromBase58 s1 = .ok b)
    (h2 : fromBase58 s2 = .ok b) : s1 = s2 := fromBase58_inj s1 s2 b h1 h2

/-- `from_base58 (to_base58 b) = Ok(b)` for every byte string the crate's buffer holds -/
theorem C09_crate_roundtrip (b : Bytes) (h : b.length ≤ 132) : fromBase58 (toBase58 b) = .ok b :=
  fromBase58_toBase58 b h

theorem C09_roundtrip_chk (r : Bool) (H : Bytes → Bytes) (hH : ∀ x, 4 ≤ (H x).length) (b : Bytes)
    (hb : b.length ≤ 128) : decodeChk r H (encodeChk H b) = .ok b :=
  decodeChk_encodeChk r H hH b (by simp [CAP]; omega)

theorem flags_differ (n : Net) : p2pkhFlag n ≠ p2shFlag n := by cases n <;> decide

theorem addrDecode_addrEncode (H : Bytes → Bytes) (hH : ∀ x, 4 ≤ (H x).length) (hash : Bytes)
    (hl : hash.length = 20) (t : AddrType) (n n' : Net) :
    addrDecode H (addrEncode H hash t n) n' =
      if addrFlag n t == p2pkhFlag n' then .ok (hash, .p2pkh)
      else if addrFlag n t == p2shFlag n' then .ok (hash, .p2sh) else .err "BadData" := by
  unfold addrDecode addrEncode
  have hc : ((H (addrFlag n t :: hash)).take 4).length = 4 := checksum4_length H hH _
  rw [fromBase58_toBase58 _ (by simp [hc, hl, CAP])]
  simp only [List.length_append, List.length_cons, hc, hl]
  rw [if_neg (by omega)]
  have e : 20 + 1 + 4 - 4 = (addrFlag n t :: hash).length := by simp [hl]
  rw [e, List.take_left' rfl, List.drop_left' rfl]
  simp [hl]

/-- addresses: hash, type come back under the network used to encode (all 7 networks, both types) -/
theorem C09_roundtrip_addr (H : Bytes → Bytes) (hH : ∀ x, 4 ≤ (H x).length) (hash : Bytes)
    (hl : hash.length = 20) (t : AddrType) (n : Net) :
    addrDecode H (addrEncode H hash t n) n = .ok (hash, t) := by
  rw [addrDecode_addrEncode H hH hash hl t n n]
  cases t with
  | p2pkh => simp [addrFlag]
  | p2sh =>
    have hb : (p2shFlag n == p2pkhFlag n) = false := by
      rw [beq_eq_false_iff_ne]
      exact fun h => flags_differ n h.symm
    simp [addrFlag, hb]

/-- address text is injective per network: two (hash, type) pairs with the same address string under
    one network are the same pair — no two payment destinations share an address -/
theorem C09_addr_encode_injective (H : Bytes → Bytes) (hH : ∀ x, 4 ≤ (H x).length) (h1 h2 : Bytes)
    (hl1 : h1.length = 20) (hl2 : h2.length = 20) (t1 t2 : AddrType) (n : Net)
    (he : addrEncode H h1 t1 n = addrEncode H h2 t2 n) : h1 = h2 ∧ t1 = t2 := by
  have a := C09_roundtrip_addr H hH h1 hl1 t1 n
  have b := C09_roundtrip_addr H hH h2 hl2 t2 n
  rw [he, b] at a
  injection a with a
  injection a with a1 a2
  exact ⟨a1.symm, a2.symm⟩

/-- every version byte from 7 up gives 52 characters: `58^51 ≤ x·256^37` and `(x+1)·256^37 ≤ 58^52` -/
theorem wif_length (H : Bytes → Bytes) (hH : ∀ x, 4 ≤ (H x).length) (key : Bytes)
    (hk : key.length = 32) (pfx : UInt8) (hp : 7 ≤ pfx.toNat) :
    (bytesToWif H key pfx).length = 52 := by
  unfold bytesToWif encodeChk toBase58
  rw [List.length_map]
  have hc := checksum4_length H hH (pfx :: (key ++ [1]))
  have hx := pfx.toNat_lt
  simp only [List.cons_append]
  apply encode58_length_of_head _ _ 51 (by omega)
  · simp only [List.length_append, hk, hc, List.length_cons, List.length_nil]
    exact Nat.le_trans (by decide : 58 ^ 51 ≤ 7 * 256 ^ 37) (Nat.mul_le_mul_right _ hp)
  · simp only [List.length_append, hk, hc, List.length_cons, List.length_nil]
    exact Nat.le_trans (Nat.mul_le_mul_right _ (by omega)) (by decide : 256 * 256 ^ 37 ≤ 58 ^ 52)

/-- WIF: network and key come back (both key networks, every 32-byte key `from_slice` accepts) -/
theorem C09_roundtrip_wif (r : Bool) (H : Bytes → Bytes) (hH : ∀ x, 4 ≤ (H x).length)
    (keyOf : Bytes → Option Bytes) (key : Bytes) (hk : key.length = 32)
    (hv : keyOf key = some key) (n : Net) (pfx : UInt8) (hn : wifPrefix n = some pfx) :
    wifDecode r H keyOf (bytesToWif H key pfx) = .ok (n, key) := by
  have hp : 7 ≤ pfx.toNat := by
    -- the two networks with a WIF prefix have 128 and 239
    cases n with
    | bsvMain | bsvTest =>
      cases hn
      decide
    | _ => cases hn
  have hlen := wif_length H hH key hk pfx hp
  unfold wifDecode
  rw [hlen]
  unfold bytesToWif
  rw [decodeChk_encodeChk r H hH _ (by simp [hk, CAP])]
  have hlast : (pfx :: key ++ [1]).getLast? = some 1 := List.getLast?_concat
  have hdl : (pfx :: key ++ [1]).length - 1 = (pfx :: key).length := by simp
  have htake : ((pfx :: key ++ [1]).take ((pfx :: key ++ [1]).length - 1)).drop 1 = key := by
    rw [hdl, List.take_left' rfl]
    rfl
  simp only [hlast, htake]
  cases n <;> simp [wifPrefix] at hn
  · subst hn
    simp [hv]
  · subst hn
    have : (TEST_PRIVATE_KEY == MAIN_PRIVATE_KEY) = false := by decide
    simp [hv, this]

/-- extended keys: all 78 bytes come back, for every 78-byte key -/
theorem C09_roundtrip_xkey (r : Bool) (H : Bytes → Bytes) (hH : ∀ x, 4 ≤ (H x).length) (k : Bytes)
    (hk : k.length = 78) : xkeyDecode r H (xkeyEncode H k) = .ok k := by
  unfold xkeyDecode xkeyEncode
  have hc : ((H k).take 4).length = 4 := checksum4_length H hH k
  rw [fromBase58_toBase58 _ (by simp [hc, hk, CAP])]
  have h78 : (k ++ (H k).take 4).take 78 = k := by rw [← hk]; exact List.take_left' rfl
  have hd78 : (k ++ (H k).take 4).drop 78 = (H k).take 4 := by rw [← hk]; exact List.drop_left' rfl
  simp only [List.length_append, hc, hk, h78, hd78]
  simp

theorem two_bytes_be (x : Nat) : x / 256 % 256 * 256 + x % 256 = x % 65536 := by
  rw [show 65536 = 256 * 256 from rfl, Nat.mod_mul, Nat.add_comm, Nat.mul_comm]

theorem be32_version (v : Nat) (hv : v < 2 ^ 32) (rest : Bytes) :
    xkeyVersion (be32 v ++ rest) = v := by
  simp only [xkeyVersion, be32, List.cons_append, List.getD_cons_zero, List.getD_cons_succ,
    UInt8.toNat_ofNat', Nat.mod_mod, Nat.reducePow]
  -- the upper and the lower half are two-byte numbers
  have e : v / 16777216 = v / 65536 / 256 := (Nat.div_div_eq_div_mul v 65536 256).symm
  rw [e, two_bytes_be (v / 65536), Nat.add_assoc, two_bytes_be v,
    Nat.mod_eq_of_lt (show v / 65536 < 65536 from Nat.div_lt_of_lt_mul hv)]
  exact Nat.div_add_mod' v 65536

/-- … and the network class and key type the constructors wrote come back -/
theorem C09_roundtrip_xkey_network_type (r : Bool) (H : Bytes → Bytes)
    (hH : ∀ x, 4 ≤ (H x).length) (n : Net) (t : XType) (depth : UInt8) (fp : Bytes) (index : Nat)
    (chain key k : Bytes) (hnew : xkeyNew n t depth fp index chain key = .ok k) :
    xkeyDecode r H (xkeyEncode H k) = .ok k ∧ xkeyNetwork k = .ok n.xclass ∧ xkeyType k = .ok t := by
  have main : ∀ keydata : Bytes, keydata.length = 33 → fp.length = 4 → chain.length = 32 →
      be32 (xkeyVersionFor n t) ++ [depth] ++ fp ++ be32 index ++ chain ++ keydata = k →
      xkeyDecode r H (xkeyEncode H k) = .ok k ∧ xkeyNetwork k = .ok n.xclass ∧
        xkeyType k = .ok t := by
    intro keydata hkd h1 h2 hk
    have hver : xkeyVersion k = xkeyVersionFor n t := by
      rw [← hk]
      simp only [List.append_assoc]
      exact be32_version _ (by cases n <;> cases t <;> decide) _
    refine ⟨C09_roundtrip_xkey r H hH k ?_, ?_, ?_⟩
    · rw [← hk]
      simp [be32, h1, h2, hkd]
    · unfold xkeyNetwork
      simp only [hver]
      cases n <;> cases t <;> decide
    · unfold xkeyType
      simp only [hver]
      cases n <;> cases t <;> decide
  unfold xkeyNew at hnew
  by_cases h1 : fp.length = 4
  · by_cases h2 : chain.length = 32
    · cases t with
      | pub =>
        by_cases h3 : key.length = 33
        · simp [h1, h2, h3] at hnew
          exact main key h3 h1 h2 (by simpa using hnew)
        · simp [h1, h2, h3] at hnew
      | priv =>
        by_cases h3 : key.length = 32
        · simp [h1, h2, h3] at hnew
          exact main (0 :: key) (by simp [h3]) h1 h2 (by simpa using hnew)
        · simp [h1, h2, h3] at hnew
    · simp [h1, h2] at hnew
  · simp [h1] at hnew

/-- `public_key_to_address` produces an address that decodes to `hash160(pk)`, type P2PKH -/
theorem C09_roundtrip_pubkey_address (H H160 : Bytes → Bytes) (hH : ∀ x, 4 ≤ (H x).length)
    (h160 : ∀ x, (H160 x).length = 20) (pk : Bytes) (n : Net) (s : List Char)
    (h : publicKeyToAddress H H160 pk n = .ok s) :
    addrDecode H s n = .ok (H160 pk, .p2pkh) ∧
    addressToPublicKeyHash true H s = .ok (H160 pk) := by
  unfold publicKeyToAddress at h
  have key : ∀ p : UInt8, p = p2pkhFlag n → s = encodeChk H (p :: H160 pk) →
      addrDecode H s n = .ok (H160 pk, .p2pkh) ∧ addressToPublicKeyHash true H s = .ok (H160 pk) := by
    intro p hp hs
    subst hs
    constructor
    · have := C09_roundtrip_addr H hH (H160 pk) (h160 pk) .p2pkh n
      simpa [addrEncode, addrFlag, encodeChk, checksum4, hp] using this
    · unfold addressToPublicKeyHash
      rw [decodeChk_encodeChk true H hH _ (by simp [h160, CAP])]
      simp
  -- only the two BSV networks have a `public_key_to_address`
  cases n with
  | bsvMain | bsvTest =>
    simp only at h
    split at h
    · simp at h
    · injection h with h
      exact key _ (by decide) h.symm
  | _ => simp at h

/-- A string is accepted only if its last four decoded bytes are the first four bytes of `H` of the
    rest (all four decoders).  Hence accepting a corrupted string — whose decoded bytes differ by
    `C09_b58_string_injective` — requires a coincidence of the 32-bit checksum. -/
theorem C09_accept_needs_checksum (r : Bool) (H : Bytes → Bytes) (hH : ∀ x, 4 ≤ (H x).length)
    (s : List Char) :
    (∀ p, decodeChk r H s = .ok p →
      ∃ cs, fromBase58 s = .ok (p ++ cs) ∧ cs.length = 4 ∧ cs = (H p).take 4) ∧
    (∀ n h t, addrDecode H s n = .ok (h, t) →
      ∃ cs, fromBase58 s = .ok (addrFlag n t :: h ++ cs) ∧ cs.length = 4 ∧
        cs = (H (addrFlag n t :: h)).take 4 ∧ h.length = 20) ∧
    (∀ keyOf n k, wifDecode r H keyOf s = .ok (n, k) →
      ∃ p cs, fromBase58 s = .ok (p ++ cs) ∧ cs.length = 4 ∧ cs = (H p).take 4) ∧
    (∀ k, xkeyDecode r H s = .ok k →
      ∃ cs, fromBase58 s = .ok (k ++ cs) ∧ cs.length = 4 ∧ cs = (H k).take 4 ∧ k.length = 78) := by
  refine ⟨decodeChk_ok r H s, fun n h t => addrDecode_ok H s n h t, fun keyOf n k hd => ?_,
    xkeyDecode_ok r H hH s⟩
  unfold wifDecode at hd
  cases hc : decodeChk r H s with
  | err e =>
    rw [hc] at hd
    cases hd
  | panic q =>
    rw [hc] at hd
    cases hd
  | ok p => exact ⟨p, decodeChk_ok r H s p hc⟩

/-- A corrupted string that is still accepted never yields the original payload: it decodes to a
    *different* payload that happens to carry its own valid checksum. -/
theorem C09_corruption_changes_payload (r : Bool) (H : Bytes → Bytes) (s s' : List Char)
    (p p' : Bytes) (hne : s' ≠ s) (h : decodeChk r H s = .ok p) (h' : decodeChk r H s' = .ok p') :
    p' ≠ p := by
  intro e
  subst e
  obtain ⟨cs, h1, _, h3⟩ := decodeChk_ok r H s p' h
  obtain ⟨cs', h1', _, h3'⟩ := decodeChk_ok r H s' p' h'
  rw [h3] at h1
  rw [h3'] at h1'
  exact hne (fromBase58_inj s' s _ h1' h1)

inductive SingleEdit : List Char → List Char → Prop
  | subst (a b : List Char) (c d : Char) : SingleEdit (a ++ c :: b) (a ++ d :: b)
  | insert (a b : List Char) (d : Char) : SingleEdit (a ++ b) (a ++ d :: b)
  | delete (a b : List Char) (c : Char) : SingleEdit (a ++ c :: b) (a ++ b)
  | transpose (a b : List Char) (c d : Char) : SingleEdit (a ++ c :: d :: b) (a ++ d :: c :: b)

/-- FULL statement of "detects corruption" (not proved, and not provable for a 32-bit checksum in
    general: it asserts that no single edit of a valid string happens to be self-consistent). -/
def C09_single_edit_rejected_full (H : Bytes → Bytes) : Prop :=
  ∀ s s' p, decodeChk true H s = .ok p → SingleEdit s s' → s' ≠ s →
    ∃ e, decodeChk true H s' = .err e

/-- PARTIAL: every string other than the original (in particular every single edit) of at most 132
    characters is rejected with an error, PROVIDED the bytes it decodes to — which differ from the
    original's — are not themselves a payload followed by its own checksum. -/
theorem C09_single_edit_rejected_partial (H : Bytes → Bytes) (s s' : List Char) (p : Bytes)
    (_h : decodeChk true H s = .ok p) (_hne : s' ≠ s) (hlen : s'.length ≤ 132)
    (hnocoincidence : ∀ d, fromBase58 s' = .ok d → 4 ≤ d.length →
      (H (d.take (d.length - 4))).take 4 ≠ d.drop (d.length - 4)) :
    ∃ e, decodeChk true H s' = .err e := by
  unfold decodeChk
  cases hf : fromBase58 s' with
  | err e => exact ⟨e, rfl⟩
  | panic q => exact absurd hf (fromBase58_no_panic s' hlen q)
  | ok d =>
    simp only
    split
    · exact ⟨_, rfl⟩
    · rename_i hl
      have := hnocoincidence d hf (by omega)
      rw [if_pos (by simpa [checksum4] using this)]
      exact ⟨_, rfl⟩

/-- strings that decode to fewer bytes than a checksum (plus the minimal payload) are errors -/
theorem C09_short_rejected (H : Bytes → Bytes) (keyOf : Bytes → Option Bytes) (s : List Char)
    (d : Bytes) (hd : fromBase58 s = .ok d) :
    (d.length < 4 → decodeChk true H s = .err "BadData" ∧
      wifDecode true H keyOf s = .err "BadData" ∧
      addressToPublicKeyHash true H s = .err "BadData") ∧
    (d.length < 6 → ∀ n, addrDecode H s n = .err "BadData") ∧
    (d.length ≠ 82 → xkeyDecode true H s = .err "BadArgument") := by
  refine ⟨fun h => ?_, fun h n => ?_, fun h => ?_⟩
  · have : decodeChk true H s = .err "BadData" := by simp [decodeChk, hd, h]
    simp [wifDecode, addressToPublicKeyHash, this]
  · simp [addrDecode, hd, h]
  · simp [xkeyDecode, hd, h]

/-- in particular every string of fewer than four characters is an error for every decoder -/
theorem C09_short_string_rejected (H : Bytes → Bytes) (keyOf : Bytes → Option Bytes)
    (s : List Char) (h : s.length < 4) (n : Net) :
    (∃ e, decodeChk true H s = .err e) ∧ (∃ e, addrDecode H s n = .err e) ∧
    (∃ e, wifDecode true H keyOf s = .err e) ∧ (∃ e, xkeyDecode true H s = .err e) ∧
    (∃ e, addressToPublicKeyHash true H s = .err e) := by
  cases hf : fromBase58 s with
  | err e =>
    have : decodeChk true H s = .err e := by simp [decodeChk, hf]
    exact ⟨⟨e, this⟩, ⟨e, by simp [addrDecode, hf]⟩, ⟨e, by simp [wifDecode, this]⟩,
      ⟨e, by simp [xkeyDecode, hf]⟩, ⟨e, by simp [addressToPublicKeyHash, this]⟩⟩
  | panic q => exact absurd hf (fromBase58_no_panic s (by simp [CAP]; omega) q)
  | ok d =>
    have hl := fromBase58_length s d hf
    obtain ⟨h1, h2, h3⟩ := C09_short_rejected H keyOf s d hf
    obtain ⟨a, b, c⟩ := h1 (by omega)
    exact ⟨⟨_, a⟩, ⟨_, h2 (by omega) n⟩, ⟨_, b⟩, ⟨_, h3 (by omega)⟩, ⟨_, c⟩⟩

/-- An address whose version byte is neither flag of the expected network is rejected; in
    particular an address encoded for network `n` is rejected under every network `n'` whose flags
    differ from the one used — e.g. every mainnet address under every testnet and vice versa. -/
theorem C09_wrong_prefix_rejected (H : Bytes → Bytes) (hH : ∀ x, 4 ≤ (H x).length) (hash : Bytes)
    (hl : hash.length = 20) (t : AddrType) (n n' : Net)
    (hdiff : addrFlag n t ≠ p2pkhFlag n' ∧ addrFlag n t ≠ p2shFlag n') :
    addrDecode H (addrEncode H hash t n) n' = .err "BadData" := by
  rw [addrDecode_addrEncode H hH hash hl t n n']
  simp [hdiff.1, hdiff.2]

theorem addrFlag_xclass (n : Net) (t : AddrType) :
    addrFlag n t = addrFlag n.xclass t ∧ (n.xclass = .bsvMain ∨ n.xclass = .bsvTest) := by
  cases n <;> cases t <;> exact ⟨rfl, by decide⟩

/-- the two prefix classes of the seven networks are disjoint (kernel-checked on the generated table) -/
theorem C09_prefix_classes_disjoint (n n' : Net) (t : AddrType) (h : n.xclass ≠ n'.xclass) :
    addrFlag n t ≠ p2pkhFlag n' ∧ addrFlag n t ≠ p2shFlag n' := by
  have ⟨e, hc⟩ := addrFlag_xclass n t
  have ⟨e1, hc'⟩ := addrFlag_xclass n' .p2pkh
  have ⟨e2, _⟩ := addrFlag_xclass n' .p2sh
  show _ ≠ addrFlag n' .p2pkh ∧ _ ≠ addrFlag n' .p2sh
  rw [e, e1, e2]
  rcases hc with c | c <;> rcases hc' with c' | c' <;> rw [c, c'] at h ⊢
  · exact absurd rfl h
  · cases t <;> decide
  · cases t <;> decide
  · exact absurd rfl h

/-- WIF with a prefix other than the two private-key bytes, and extended keys with an unknown
    version word, are errors (the latter when the network or type is asked for). -/
theorem C09_wrong_prefix_rejected_wif_xkey (r : Bool) (H : Bytes → Bytes)
    (keyOf : Bytes → Option Bytes) (s : List Char) (pfx : UInt8) (rest : Bytes)
    (hd : decodeChk r H s = .ok (pfx :: rest)) (h1 : pfx ≠ MAIN_PRIVATE_KEY)
    (h2 : pfx ≠ TEST_PRIVATE_KEY) : wifDecode r H keyOf s = .err "BadArgument" := by
  simp [wifDecode, hd, h1, h2]

theorem C09_unknown_xkey_version (k : Bytes)
    (h : xkeyVersion k ∉ [Generated.C09_XPUB_MAIN, Generated.C09_XPRV_MAIN,
      Generated.C09_XPUB_TEST, Generated.C09_XPRV_TEST]) :
    xkeyNetwork k = .err "BadData" ∧ xkeyType k = .err "BadData" := by
  simp only [List.mem_cons, List.not_mem_nil, or_false, not_or] at h
  simp [xkeyNetwork, xkeyType, h]

/-- Every string of at most 132 characters — alphabet or not, ASCII or not — is mapped by every
    repaired decoder to `ok` or `err`, never to a panic; for any `H`, any `keyOf`, any network. -/
theorem C09_no_panic (H : Bytes → Bytes) (keyOf : Bytes → Option Bytes) (s : List Char)
    (hlen : s.length ≤ 132) (n : Net) (site : String) :
    decodeChk true H s ≠ .panic site ∧ addrDecode H s n ≠ .panic site ∧
    wifDecode true H keyOf s ≠ .panic site ∧ xkeyDecode true H s ≠ .panic site ∧
    addressToPublicKeyHash true H s ≠ .panic site := by
  have hf : ∀ q, fromBase58 s ≠ .panic q := fromBase58_no_panic s hlen
  have hchk := decodeChk_ne_panic H s hf
  exact ⟨hchk site, addrDecode_ne_panic H s n hf site, wifDecode_ne_panic H keyOf s hchk site,
    xkeyDecode_ne_panic H s hf site, addressToPublicKeyHash_ne_panic H s hchk site⟩

/-- a string containing a character outside the alphabet is `Base58Error`, whatever its length -/
theorem C09_non_alphabet_is_error (H : Bytes → Bytes) (keyOf : Bytes → Option Bytes)
    (s : List Char) (n : Net) (h : ∃ c ∈ s, charDigit c = none) :
    decodeChk true H s = .err "Base58Error" ∧ addrDecode H s n = .err "Base58Error" ∧
    wifDecode true H keyOf s = .err "Base58Error" ∧ xkeyDecode true H s = .err "Base58Error" ∧
    addressToPublicKeyHash true H s = .err "Base58Error" := by
  have hd : digitsOf s = none := by
    obtain ⟨c, hc, hn⟩ := h
    cases hds : digitsOf s with
    | none => rfl
    | some ds =>
      -- a string with digits spells them, and every spelled digit is recognised
      obtain ⟨hlt, rfl⟩ := digitsOf_eq_some s ds hds
      obtain ⟨d, hd, rfl⟩ := List.mem_map.mp hc
      rw [charDigit_digitChar ⟨d, hlt d hd⟩] at hn
      cases hn
  have hf : fromBase58 s = .err "Base58Error" := by simp [fromBase58, hd]
  have hc : decodeChk true H s = .err "Base58Error" := by simp [decodeChk, hf]
  simp [hc, addrDecode, wifDecode, xkeyDecode, addressToPublicKeyHash, hf]

/-- FULL statement of "never panics" for the pinned code — false: -/
def C09_no_panic_pinned_full (H : Bytes → Bytes) : Prop :=
  ∀ s site, s.length ≤ 132 → decodeChk false H s ≠ .panic site ∧ xkeyDecode false H s ≠ .panic site ∧
    addressToPublicKeyHash false H s ≠ .panic site

/-- the pinned code panics on `""`, `"1"`, `"11"`, `"111"`, `"2g"` (`len - 4` underflow; `from_wif`
    goes through the same line), `ExtendedKey::decode("1111")` (`v[..78]`), and
    `address_to_public_key_hash("3QJmnh")`-like inputs (an empty payload with a valid checksum). -/
theorem C09_pinned_panics (H : Bytes → Bytes) (keyOf : Bytes → Option Bytes) :
    decodeChk false H [] = .panic "base58_checksum.rs:decoded.len()-4" ∧
    decodeChk false H ['1'] = .panic "base58_checksum.rs:decoded.len()-4" ∧
    decodeChk false H ['1', '1'] = .panic "base58_checksum.rs:decoded.len()-4" ∧
    decodeChk false H ['1', '1', '1'] = .panic "base58_checksum.rs:decoded.len()-4" ∧
    decodeChk false H ['2', 'g'] = .panic "base58_checksum.rs:decoded.len()-4" ∧
    wifDecode false H keyOf ['2', 'g'] = .panic "base58_checksum.rs:decoded.len()-4" ∧
    xkeyDecode false H ['1', '1', '1', '1'] = .panic "extended_key.rs:v[..78]" := by
  have e0 : fromBase58 [] = .ok [] := by decide
  have e1 : fromBase58 ['1'] = .ok [0] := by decide
  have e2 : fromBase58 ['1', '1'] = .ok [0, 0] := by decide
  have e3 : fromBase58 ['1', '1', '1'] = .ok [0, 0, 0] := by decide
  have e4 : fromBase58 ['1', '1', '1', '1'] = .ok [0, 0, 0, 0] := by decide
  have e5 : fromBase58 ['2', 'g'] = .ok [97] := by decide
  have c5 : decodeChk false H ['2', 'g'] = .panic "base58_checksum.rs:decoded.len()-4" := by
    simp [decodeChk, e5]
  refine ⟨by simp [decodeChk, e0], by simp [decodeChk, e1], by simp [decodeChk, e2],
    by simp [decodeChk, e3], c5, by simp [wifDecode, c5], by simp [xkeyDecode, e4]⟩

theorem C09_no_panic_pinned_full_false (H : Bytes → Bytes) : ¬ C09_no_panic_pinned_full H := by
  intro h
  exact (h [] _ (by simp)).1 (C09_pinned_panics H (fun _ => none)).1

/-- `address_to_public_key_hash`: whenever a string carries a valid checksum over an EMPTY payload
    (`"3QJmnh"` is one for double SHA-256) the pinned `[1..]` slice panics; repaired: `BadData`. -/
theorem C09_pinned_empty_payload_panics (H : Bytes → Bytes) (s : List Char)
    (h : fromBase58 s = .ok ((H []).take 4)) (h4 : ((H []).take 4).length = 4) :
    addressToPublicKeyHash false H s = .panic "py_wallet.rs:decoded[1..]" ∧
    addressToPublicKeyHash true H s = .err "BadData" := by
  have : ∀ r, decodeChk r H s = .ok [] := by
    intro r
    simp [decodeChk, h, h4, checksum4]
  simp [addressToPublicKeyHash, this]

/-- Limit of the claim: the `base58` crate itself panics once the leading `'1'`s plus the
    significant bytes exceed its 132-byte buffer — e.g. 133 × `'1'` — through every decoder.
    (Outside the property's quantifier, strings of length 0-120; not repaired.) -/
theorem C09_crate_capacity_panic :
    fromBase58 (List.replicate 133 '1') = .panic "base58:from_base58:leading_zeros-zcount" ∧
    fromBase58 (List.replicate 132 '1') = .ok (List.replicate 132 0) := by
  rw [fromBase58_replicate_one, fromBase58_replicate_one]
  exact ⟨if_pos (by decide), if_neg (by decide)⟩

/-- the model's alphabet is the one the crate's encoder was observed to use on this run
    (`C09_ALPHABET` is regenerated from behaviour by `cgh tables`) -/
theorem C09_alphabet_matches_crate : Generated.C09_ALPHABET = (List.range 58).map digitCode := by
  decide

example : encode58 [0, 0, 97, 98, 99] = [0, 0, 32, 41, 11, 33] := by decide
example : toBase58 [0, 0, 97, 98, 99] = "11ZiCa".toList := by decide
example : fromBase58 "11ZiCa".toList = .ok [0, 0, 97, 98, 99] := by decide
example : fromBase58 "0".toList = .err "Base58Error" := by decide
example : fromBase58 "é".toList = .err "Base58Error" := by decide
example : ∃ H : Bytes → Bytes, ∀ x, 4 ≤ (H x).length := ⟨fun _ => [1, 2, 3, 4], by simp⟩
example : wifPrefix .bsvMain = some MAIN_PRIVATE_KEY ∧ wifPrefix .bsvTest = some TEST_PRIVATE_KEY :=
  ⟨rfl, rfl⟩
/-- with a toy checksum: a valid string, a transposition of it rejected, a too-short one rejected -/
example : decodeChk true (fun _ => [1, 2, 3, 4]) (encodeChk (fun _ => [1, 2, 3, 4]) [0, 7]) = .ok [0, 7] := by
  decide
example : encodeChk (fun _ => [1, 2, 3, 4]) [0, 7] = "1nqDUUT".toList := by decide
example : decodeChk true (fun _ => [1, 2, 3, 4]) "1nqDUTU".toList = .err "BadData" := by decide
example : decodeChk true (fun _ => [1, 2, 3, 4]) "2g".toList = .err "BadData" := by decide

end CG.Props.C09
