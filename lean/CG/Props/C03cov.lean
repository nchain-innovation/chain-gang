import CG.Proofs.Coverage
/-!
# C03 (coverage clause) — the sighash coverage table is justified by the BIP-143 reference preimage

`checks/C03` decides every single-field mutation case with the hand-written table
`CG.Spec.SighashCoverage.covered ty m`.  This file proves that table against the reference preimage
`CG.Spec.Bip143.preimageOf` (FORKID path), for **every** type byte `ty : UInt8` — in particular the six
FORKID types `0x41 0x42 0x43 0xc1 0xc2 0xc3` (ALL / NONE / SINGLE, without / with ANYONECANPAY) — and for
**any** double-hash function `dsha`:

* a row `false` (not covered): the mutated request has the *same* preimage, hence the same digest, hence
  the signature stays valid (`C03_uncovered_fields_irrelevant`, no hypothesis on `dsha`);
* a row `true` about a transaction field: the mutated request has a *different* preimage, or `dsha` has
  a collision between the two transactions' serialised outpoints, or sequences, or outputs, or
  same-index outputs (`InnerCollision`; why the pair is named is said there).  Collision resistance of
  the double hash is the named assumption; injectivity of `dsha` is NOT assumed.
  (`C03_covered_fields_bind`, from `Bip143Inj.ser_inj`; needs `dsha` results of 32 bytes and fields
  in their wire ranges, `TxOk`.)

"Validation then fails" additionally needs ECDSA unforgeability for the new digest — outside the proof.

Rows of the table outside `C03_coverage_table_sound`, because they do not change the preimage of the
request but the signature / key it is checked with, or go through the locking script's own checks:
`key`, `sig_flip_r`, `sig_flip_s` (ECDSA verification), `sig_type` (the type byte appended to the
signature: it changes field 10 of the preimage — row `ty' ≠ ty` of `C03_covered_fields_bind` — and
which table column applies), `spent_script` (for P2PKH the script code is the spent script: row
`sc' ≠ sc` of `C03_covered_fields_bind`; the harness flips a byte of the key hash, so the spend already
fails `OP_EQUALVERIFY`).

Two preconditions the table leaves implicit and `Mut` states (the harness generator guarantees them):
`out_add` is uncovered for SINGLE only if the signed input already has an output at its index (otherwise
the added output *is* the same-index output); `out_remove_last` only if the removed output is not the
same-index one.
-/
namespace CG.Props.C03cov
open CG CG.Model.TxSer CG.Spec.Bip143 CG.Proofs.Bip143Inj CG.Proofs.Coverage
open CG.Spec.SighashCoverage (covered)

/-- **agreement ⇒ same preimage**: two transactions that agree on the fields type `ty` commits to for
    input `nIn` have equal preimages — any hash function, script code, amount. -/
theorem C03_agree_preimage_eq (dsha : Bytes → Bytes) (ty : UInt8) (nIn : Nat) (tx tx' : Tx)
    (h : Agree ty nIn tx tx') (sc : Bytes) (amt : Int) :
    preimageOf dsha tx' nIn sc amt ty = preimageOf dsha tx nIn sc amt ty :=
  preimage_eq_of_agree dsha h sc amt

/-- **same preimage ⇒ agreement, or a collision**: the converse, up to a collision of `dsha` between
    corresponding inner-hash inputs (for SINGLE the same-index output must exist in both or in neither:
    a missing one hashes to 32 zero bytes, and a `dsha` value of 32 zero bytes is not a collision). -/
theorem C03_equal_preimage_agree_or_collision (dsha : Bytes → Bytes) (hl : ∀ b, (dsha b).length = 32)
    (tx tx' : Tx) (nIn : Nat) (sc sc' : Bytes) (amt amt' : Int) (ty ty' : UInt8)
    (ok : TxOk tx) (ok' : TxOk tx') (hin : nIn < tx.inputs.length) (hin' : nIn < tx'.inputs.length)
    (hsc : sc.length < 2 ^ 64) (hsc' : sc'.length < 2 ^ 64) (ha : InI64 amt) (ha' : InI64 amt')
    (hsame : isSingle ty = true → (tx'.outputs[nIn]?).isSome = (tx.outputs[nIn]?).isSome)
    (h : preimageOf dsha tx' nIn sc' amt' ty' = preimageOf dsha tx nIn sc amt ty) :
    InnerCollision dsha nIn tx tx' ∨ (sc' = sc ∧ amt' = amt ∧ ty' = ty ∧ Agree ty nIn tx tx') :=
  agree_or_collision dsha hl ok ok' hin hin' hsc hsc' ha ha' hsame h

/-- **uncovered fields are irrelevant**: each change below leaves the preimage (hence the digest the
    signature is checked against) unchanged.  Any `dsha`, any script code, amount, type byte `ty`. -/
theorem C03_uncovered_fields_irrelevant (dsha : Bytes → Bytes) (tx : Tx) (nIn : Nat) (sc : Bytes) (amt : Int)
    (ty : UInt8) :
    -- an input's unlocking script: every type (even for `j = nIn`: unlocking scripts are not in the preimage)
    (∀ j i u, tx.inputs[j]? = some i →
      preimageOf dsha { tx with inputs := tx.inputs.set j { i with unlockScript := u } } nIn sc amt ty =
        preimageOf dsha tx nIn sc amt ty) ∧
    -- another input's sequence: ANYONECANPAY, or NONE, or SINGLE
    (∀ j i s, j ≠ nIn → tx.inputs[j]? = some i →
      (anyoneCanPay ty = true ∨ isNone ty = true ∨ isSingle ty = true) →
      preimageOf dsha { tx with inputs := tx.inputs.set j { i with sequence := s } } nIn sc amt ty =
        preimageOf dsha tx nIn sc amt ty) ∧
    -- another input's outpoint: ANYONECANPAY
    (∀ j i o, j ≠ nIn → tx.inputs[j]? = some i → anyoneCanPay ty = true →
      preimageOf dsha { tx with inputs := tx.inputs.set j { i with prevOutput := o } } nIn sc amt ty =
        preimageOf dsha tx nIn sc amt ty) ∧
    -- added inputs: ANYONECANPAY
    (∀ extra, nIn < tx.inputs.length → anyoneCanPay ty = true →
      preimageOf dsha { tx with inputs := tx.inputs ++ extra } nIn sc amt ty = preimageOf dsha tx nIn sc amt ty) ∧
    -- SINGLE: the output at another index (amount and script)
    (∀ j o', j ≠ nIn → isSingle ty = true →
      preimageOf dsha { tx with outputs := tx.outputs.set j o' } nIn sc amt ty = preimageOf dsha tx nIn sc amt ty) ∧
    -- SINGLE: added outputs, the signed input having an output at its index
    (∀ extra, nIn < tx.outputs.length → isSingle ty = true →
      preimageOf dsha { tx with outputs := tx.outputs ++ extra } nIn sc amt ty = preimageOf dsha tx nIn sc amt ty) ∧
    -- SINGLE: the last output removed, it not being the one at the signed input's index
    (nIn + 1 < tx.outputs.length → isSingle ty = true →
      preimageOf dsha { tx with outputs := tx.outputs.dropLast } nIn sc amt ty = preimageOf dsha tx nIn sc amt ty) ∧
    -- NONE: any change of the outputs whatsoever (amounts, scripts, added, removed)
    (∀ outs', isNone ty = true →
      preimageOf dsha { tx with outputs := outs' } nIn sc amt ty = preimageOf dsha tx nIn sc amt ty) := by
  refine ⟨?_, ?_, ?_, ?_, ?_, ?_, ?_, ?_⟩
  · intro j i u hi
    exact preimage_eq_of_agree dsha
      (agree_set_input ty nIn tx j i { i with unlockScript := u } hi (fun _ => rfl) (fun _ => rfl)) sc amt
  · intro j i s hj hi hty
    refine preimage_eq_of_agree dsha
      (agree_set_input ty nIn tx j i { i with sequence := s } hi (fun _ => rfl) ?_) sc amt
    rintro (h | ⟨hA, hS, hN⟩)
    · exact absurd h hj
    · rcases hty with h | h | h <;> simp_all
  · intro j i o hj hi hA
    refine preimage_eq_of_agree dsha
      (agree_set_input ty nIn tx j i { i with prevOutput := o } hi ?_ (fun _ => rfl)) sc amt
    rintro (h | h)
    · exact absurd h hj
    · simp [hA] at h
  · intro extra hin hA
    exact preimage_eq_of_agree dsha (agree_append_inputs ty nIn tx extra hin hA) sc amt
  · intro j o' hj hS
    exact preimage_eq_of_agree dsha
      (agree_outputs ty nIn tx _ (by simp [hS]) fun _ => List.getElem?_set_ne hj) sc amt
  · intro extra hn hS
    exact preimage_eq_of_agree dsha
      (agree_outputs ty nIn tx _ (by simp [hS]) fun _ => List.getElem?_append_left hn) sc amt
  · intro hn hS
    exact preimage_eq_of_agree dsha
      (agree_outputs ty nIn tx _ (by simp [hS]) fun _ => by rw [List.getElem?_dropLast, if_pos (by omega)]) sc amt
  · intro outs' hN
    exact preimage_eq_of_agree dsha
      (agree_outputs ty nIn tx _ (by simp [hN]) fun hS => by simp [isSingle_not_isNone hS] at hN) sc amt

/-- **covered fields bind**: if two signing requests for an existing input `nIn` differ in a field the
    type commits to — version, lock time, this input's outpoint or sequence, the spent amount, the script
    code, the type byte; any outpoint without ANYONECANPAY; any sequence for ALL without ANYONECANPAY;
    the outputs for ALL; the same-index output for SINGLE — then their preimages differ, **or `dsha` has
    a collision** `a ≠ b ∧ dsha a = dsha b` where `a`, `b` are the two transactions' serialised outpoints /
    sequences / outputs / same-index outputs (`InnerCollision`).  (Unique decodability of the ten fields,
    `Bip143Inj.ser_inj`, and of what the three inner hashes are taken of.)  `dsha` is any function with
    32-byte results; fields in wire range. -/
theorem C03_covered_fields_bind (dsha : Bytes → Bytes) (hl : ∀ b, (dsha b).length = 32)
    (tx tx' : Tx) (nIn : Nat) (sc sc' : Bytes) (amt amt' : Int) (ty ty' : UInt8)
    (ok : TxOk tx) (ok' : TxOk tx') (hin : nIn < tx.inputs.length) (hin' : nIn < tx'.inputs.length)
    (hsc : sc.length < 2 ^ 64) (hsc' : sc'.length < 2 ^ 64) (ha : InI64 amt) (ha' : InI64 amt')
    (hdiff :
      tx'.version ≠ tx.version ∨
      tx'.lockTime ≠ tx.lockTime ∨
      (tx'.inputs[nIn]?).map (·.prevOutput) ≠ (tx.inputs[nIn]?).map (·.prevOutput) ∨
      (tx'.inputs[nIn]?).map (·.sequence) ≠ (tx.inputs[nIn]?).map (·.sequence) ∨
      amt' ≠ amt ∨
      sc' ≠ sc ∨
      ty' ≠ ty ∨
      (anyoneCanPay ty = false ∧ tx'.inputs.map (·.prevOutput) ≠ tx.inputs.map (·.prevOutput)) ∨
      (anyoneCanPay ty = false ∧ isSingle ty = false ∧ isNone ty = false ∧
        tx'.inputs.map (·.sequence) ≠ tx.inputs.map (·.sequence)) ∨
      (isSingle ty = false ∧ isNone ty = false ∧ tx'.outputs ≠ tx.outputs) ∨
      (isSingle ty = true ∧ ∃ o o', tx.outputs[nIn]? = some o ∧ tx'.outputs[nIn]? = some o' ∧ o' ≠ o)) :
    preimageOf dsha tx' nIn sc' amt' ty' ≠ preimageOf dsha tx nIn sc amt ty ∨ InnerCollision dsha nIn tx tx' := by
  refine differ_or_collision dsha hl ok ok' hin hin' hsc hsc' ha ha' fun e1 e2 e3 core bo => ?_
  rcases hdiff with d | d | d | d | d | d | d | ⟨hA, d⟩ | ⟨hA, hS, hN, d⟩ | ⟨hS, hN, d⟩ |
    ⟨hS, o, o', h1, h2, d⟩
  · exact d core.version
  · exact d core.lockTime
  · exact d core.selfPrev
  · exact d core.selfSeq
  · exact d e2
  · exact d e1
  · exact d e3
  · exact d (core.prevouts hA)
  · exact d (core.sequences hA hS hN)
  · exact d (core.outputsAll hS hN)
  · exact d (bo hS o o' h1 h2)

/-- **the coverage table is sound** w.r.t. the reference preimage, for the sixteen mutation names that
    concern the signing request (`none version locktime in_seq_self in_seq_other in_prev_self
    in_prev_other in_add out_amount_same out_amount_other out_script_same out_script_other out_add
    out_remove_last amount unlock_other`): a row `some false` ⇒ the mutated request has the same preimage;
    a row `some true` ⇒ a different preimage, or the named collision of `dsha`. -/
theorem C03_coverage_table_sound (dsha : Bytes → Bytes) (nIn : Nat) (tx tx' : Tx) (amt amt' : Int) (sc : Bytes)
    (ty : UInt8) (m : String) (hm : Mut nIn tx amt m tx' amt') (hin : nIn < tx.inputs.length) :
    (covered ty.toNat m = some false →
      preimageOf dsha tx' nIn sc amt' ty = preimageOf dsha tx nIn sc amt ty) ∧
    (covered ty.toNat m = some true →
      (∀ b, (dsha b).length = 32) → TxOk tx → TxOk tx' → InI64 amt → InI64 amt' → sc.length < 2 ^ 64 →
      preimageOf dsha tx' nIn sc amt' ty ≠ preimageOf dsha tx nIn sc amt ty ∨ InnerCollision dsha nIn tx tx') := by
  obtain ⟨uUnlock, uSeq, uPrev, uInAdd, uOutOther, uOutAdd, uOutRem, uNone⟩ :=
    C03_uncovered_fields_irrelevant dsha tx nIn sc amt ty
  -- a covered row: the mutated request cannot agree with the original one on what `ty` commits to
  have B : ∀ (tx' : Tx) (amt' : Int), nIn < tx'.inputs.length →
      (AgreeCore ty nIn tx tx' → amt' = amt →
        (isSingle ty = true → ∀ o o', tx.outputs[nIn]? = some o → tx'.outputs[nIn]? = some o' → o' = o) →
        False) →
      (∀ b, (dsha b).length = 32) → TxOk tx → TxOk tx' → InI64 amt → InI64 amt' → sc.length < 2 ^ 64 →
      preimageOf dsha tx' nIn sc amt' ty ≠ preimageOf dsha tx nIn sc amt ty ∨ InnerCollision dsha nIn tx tx' :=
    fun tx' amt' hin' hno hl ok ok' ha ha' hsc =>
      differ_or_collision dsha hl ok ok' hin hin' hsc hsc ha ha' fun _ e _ core bo => hno core e bo
  have hAll : Spec.SighashCoverage.isAll ty.toNat = (!isSingle ty && !isNone ty) := table_isAll ty
  have hSgl : decide (Spec.SighashCoverage.base ty.toNat = 3) = isSingle ty := table_single ty
  cases hm with
  | none => exact row_sound (b := false) rfl (fun _ => rfl) nofun
  | version v h => exact row_sound (b := true) rfl nofun fun _ => B _ _ hin fun a _ _ => h a.version
  | locktime t h => exact row_sound (b := true) rfl nofun fun _ => B _ _ hin fun a _ _ => h a.lockTime
  | in_seq_self i s hi h =>
    exact row_sound (b := true) rfl nofun fun _ => B _ _ (by simpa using hin) fun a _ _ =>
      getElem?_set_map_ne (·.sequence) _ hi h a.selfSeq
  | in_seq_other j i s hj hi h =>
    refine row_sound (b := !anyoneCanPay ty && (!isSingle ty && !isNone ty)) (by rw [← hAll]; rfl)
      (fun hb => uSeq j i s hj hi (b3_false hb)) fun hb => B _ _ (by simpa using hin) fun a _ _ => ?_
    have hb : anyoneCanPay ty = false ∧ isSingle ty = false ∧ isNone ty = false := by simpa using hb
    exact map_set_ne (·.sequence) _ hi h (a.sequences hb.1 hb.2.1 hb.2.2)
  | in_prev_self i o hi h =>
    exact row_sound (b := true) rfl nofun fun _ => B _ _ (by simpa using hin) fun a _ _ =>
      getElem?_set_map_ne (·.prevOutput) _ hi h a.selfPrev
  | in_prev_other j i o hj hi h =>
    exact row_sound (b := !anyoneCanPay ty) rfl (fun hb => uPrev j i o hj hi (by simpa using hb))
      fun hb => B _ _ (by simpa using hin) fun a _ _ =>
        map_set_ne (·.prevOutput) _ hi h (a.prevouts (by simpa using hb))
  | in_add x =>
    refine row_sound (b := !anyoneCanPay ty) rfl (fun hb => uInAdd [x] hin (by simpa using hb))
      fun hb => B _ _ (by simp only [List.length_append]; omega) fun a _ _ => ?_
    simpa using congrArg List.length (a.prevouts (by simpa using hb))
  | out_amount_same o a ho h =>
    have hne : ({ o with satoshis := a } : TxOut) ≠ o := fun e => h (congrArg TxOut.satoshis e)
    refine row_sound (b := (!isSingle ty && !isNone ty) || isSingle ty) (by rw [← hAll, ← hSgl]; rfl)
      (fun hb => uNone _ (bSame_false hb)) fun hb => B _ _ hin fun a _ bo => ?_
    rcases bSame_true hb with hS | ⟨hS, hN⟩
    · exact hne (bo hS o _ ho (List.getElem?_set_self (List.getElem?_eq_some_iff.mp ho).1))
    · exact set_ne_self _ ho hne (a.outputsAll hS hN)
  | out_amount_other j o a hj ho h =>
    have hne : ({ o with satoshis := a } : TxOut) ≠ o := fun e => h (congrArg TxOut.satoshis e)
    refine row_sound (b := !isSingle ty && !isNone ty) (by rw [← hAll]; rfl)
      (fun hb => (bAll_false hb).elim (uOutOther j _ hj) (uNone _)) fun hb => B _ _ hin fun a _ _ => ?_
    have hb : isSingle ty = false ∧ isNone ty = false := by simpa using hb
    exact set_ne_self _ ho hne (a.outputsAll hb.1 hb.2)
  | out_script_same o s ho h =>
    have hne : ({ o with lockScript := s } : TxOut) ≠ o := fun e => h (congrArg TxOut.lockScript e)
    refine row_sound (b := (!isSingle ty && !isNone ty) || isSingle ty) (by rw [← hAll, ← hSgl]; rfl)
      (fun hb => uNone _ (bSame_false hb)) fun hb => B _ _ hin fun a _ bo => ?_
    rcases bSame_true hb with hS | ⟨hS, hN⟩
    · exact hne (bo hS o _ ho (List.getElem?_set_self (List.getElem?_eq_some_iff.mp ho).1))
    · exact set_ne_self _ ho hne (a.outputsAll hS hN)
  | out_script_other j o s hj ho h =>
    have hne : ({ o with lockScript := s } : TxOut) ≠ o := fun e => h (congrArg TxOut.lockScript e)
    refine row_sound (b := !isSingle ty && !isNone ty) (by rw [← hAll]; rfl)
      (fun hb => (bAll_false hb).elim (uOutOther j _ hj) (uNone _)) fun hb => B _ _ hin fun a _ _ => ?_
    have hb : isSingle ty = false ∧ isNone ty = false := by simpa using hb
    exact set_ne_self _ ho hne (a.outputsAll hb.1 hb.2)
  | out_add o hn =>
    refine row_sound (b := !isSingle ty && !isNone ty) (by rw [← hAll]; rfl)
      (fun hb => (bAll_false hb).elim (uOutAdd [o] hn) (uNone _)) fun hb => B _ _ hin fun a _ _ => ?_
    have hb : isSingle ty = false ∧ isNone ty = false := by simpa using hb
    simpa using congrArg List.length (a.outputsAll hb.1 hb.2)
  | out_remove_last hn =>
    refine row_sound (b := !isSingle ty && !isNone ty) (by rw [← hAll]; rfl)
      (fun hb => (bAll_false hb).elim (uOutRem hn) (uNone _)) fun hb => B _ _ hin fun a _ _ => ?_
    have hb : isSingle ty = false ∧ isNone ty = false := by simpa using hb
    have := congrArg List.length (a.outputsAll hb.1 hb.2)
    simp only [List.length_dropLast] at this
    omega
  | amount a h => exact row_sound (b := true) rfl nofun fun _ => B _ _ hin fun _ e _ => h e
  | unlock_other j i u hj hi h => exact row_sound (b := false) rfl (fun _ => uUnlock j i u hi) nofun

/-- every mutation name of `Mut` has a row in the table -/
theorem C03_mutation_names_in_table (nIn : Nat) (tx tx' : Tx) (amt amt' : Int) (m : String)
    (hm : Mut nIn tx amt m tx' amt') (ty : Nat) : (covered ty m).isSome = true := by
  cases hm <;> rfl

/-- the weaker, anonymous form of the alternative -/
theorem C03_inner_collision_is_collision (dsha : Bytes → Bytes) (nIn : Nat) (tx tx' : Tx)
    (h : InnerCollision dsha nIn tx tx') : ∃ a b : Bytes, a ≠ b ∧ dsha a = dsha b := h.collision

/-! ### non-vacuity: a 2-input 2-output transaction, input 0 signed -/

def exIn0 : TxIn := ⟨⟨List.replicate 32 7, 0⟩, [], 0xfffffff0⟩
def exIn1 : TxIn := ⟨⟨List.replicate 32 7, 1⟩, [], 0xfffffff1⟩
def exOut0 : TxOut := ⟨10, [0x51, 0x75, 0x51]⟩
def exOut1 : TxOut := ⟨11, [0x51, 0x75, 0x52]⟩
def exTx : Tx := { version := 2, inputs := [exIn0, exIn1], outputs := [exOut0, exOut1], lockTime := 17 }
def spare : OutPoint := ⟨List.replicate 32 7, 2⟩

def toyHash (b : Bytes) : Bytes := (b ++ List.replicate 32 0).take 32

example : ∀ b, (toyHash b).length = 32 := by intro b; simp [toyHash]
example : TxOk exTx :=
  ⟨by decide, by decide, by decide, by unfold InI64; decide⟩
example : InI64 1000 ∧ InI64 999 ∧ ([0x76, 0xa9] : Bytes).length < 2 ^ 64 ∧ 0 < exTx.inputs.length := by
  unfold InI64
  decide

-- every mutation is applicable to it
example : Mut 0 exTx 1000 "none" exTx 1000 := .none
example : ∃ t, Mut 0 exTx 1000 "version" t 1000 ∧ TxOk t :=
  ⟨_, .version 3 (by decide), by decide, by decide, by decide,
    by unfold InI64; decide⟩
example : ∃ t, Mut 0 exTx 1000 "locktime" t 1000 := ⟨_, .locktime 18 (by decide)⟩
example : ∃ t, Mut 0 exTx 1000 "in_seq_self" t 1000 := ⟨_, .in_seq_self exIn0 5 rfl (by decide)⟩
example : ∃ t, Mut 0 exTx 1000 "in_seq_other" t 1000 := ⟨_, .in_seq_other 1 exIn1 5 (by decide) rfl (by decide)⟩
example : ∃ t, Mut 0 exTx 1000 "in_prev_self" t 1000 := ⟨_, .in_prev_self exIn0 spare rfl (by decide)⟩
example : ∃ t, Mut 0 exTx 1000 "in_prev_other" t 1000 ∧ TxOk t :=
  ⟨_, .in_prev_other 1 exIn1 spare (by decide) rfl (by decide), by decide, by decide,
    by decide, by unfold InI64; decide⟩
example : ∃ t, Mut 0 exTx 1000 "in_add" t 1000 := ⟨_, .in_add ⟨spare, [], 0xffffffff⟩⟩
example : ∃ t, Mut 0 exTx 1000 "out_amount_same" t 1000 := ⟨_, .out_amount_same exOut0 11 rfl (by decide)⟩
example : ∃ t, Mut 0 exTx 1000 "out_amount_other" t 1000 :=
  ⟨_, .out_amount_other 1 exOut1 12 (by decide) rfl (by decide)⟩
example : ∃ t, Mut 0 exTx 1000 "out_script_same" t 1000 :=
  ⟨_, .out_script_same exOut0 [0x51, 0x75, 0x51, 0x61] rfl (by decide)⟩
example : ∃ t, Mut 0 exTx 1000 "out_script_other" t 1000 :=
  ⟨_, .out_script_other 1 exOut1 [0x51, 0x75, 0x52, 0x61] (by decide) rfl (by decide)⟩
example : ∃ t, Mut 0 exTx 1000 "out_add" t 1000 := ⟨_, .out_add ⟨1, [0x51]⟩ (by decide)⟩
example : ∃ t, Mut 0 exTx 1000 "out_remove_last" t 1000 := ⟨_, .out_remove_last (by decide)⟩
example : Mut 0 exTx 1000 "amount" exTx 999 := .amount 999 (by decide)
example : ∃ t, Mut 0 exTx 1000 "unlock_other" t 1000 :=
  ⟨_, .unlock_other 1 exIn1 [0x61] (by decide) rfl (by decide)⟩

-- both kinds of row occur among the six FORKID types
example : [0x41, 0x42, 0x43, 0xc1, 0xc2, 0xc3].map (fun t => covered t "in_seq_other") =
    [some true, some false, some false, some false, some false, some false] := by decide
example : [0x41, 0x42, 0x43, 0xc1, 0xc2, 0xc3].map (fun t => covered t "in_prev_other") =
    [some true, some true, some true, some false, some false, some false] := by decide
example : [0x41, 0x42, 0x43, 0xc1, 0xc2, 0xc3].map (fun t => covered t "out_amount_same") =
    [some true, some false, some true, some true, some false, some true] := by decide
example : [0x41, 0x42, 0x43, 0xc1, 0xc2, 0xc3].map (fun t => covered t "out_add") =
    [some true, some false, some false, some true, some false, some false] := by decide

-- the table theorem applied: ALL|ANYONECANPAY|FORKID does not commit to the other input's sequence …
example (dsha : Bytes → Bytes) (sc : Bytes) :
    preimageOf dsha { exTx with inputs := exTx.inputs.set 1 { exIn1 with sequence := 5 } } 0 sc 1000 0xc1 =
      preimageOf dsha exTx 0 sc 1000 0xc1 :=
  (C03_coverage_table_sound dsha 0 exTx _ 1000 1000 sc 0xc1 "in_seq_other"
    (.in_seq_other 1 exIn1 5 (by decide) rfl (by decide)) (by decide)).1 (by decide)

-- … ALL|FORKID does; with the toy function the first alternative (different preimages) is the one that holds
example : preimageOf toyHash { exTx with inputs := exTx.inputs.set 1 { exIn1 with sequence := 5 } } 0 [0x51] 1000 0x41 ≠
    preimageOf toyHash exTx 0 [0x51] 1000 0x41 := by decide
example : preimageOf toyHash { exTx with version := 3 } 0 [0x51] 1000 0x43 ≠ preimageOf toyHash exTx 0 [0x51] 1000 0x43 := by
  decide

end CG.Props.C03cov
