import CG.Proofs.PyGlue
import CG.Base.Lemmas
import CG.Props.C01
import CG.Props.C02
import CG.Props.C07
/-!
# C18 — Python bindings are a faithful, panic-free view of the Rust core

"Every operation exposed to Python … returns the same result as the corresponding Rust operation on
the same data, and the Python-level evaluation verdict equals the core's top-of-stack rule.  Invalid
arguments raise ordinary Python exceptions and never surface a Rust panic, and supplying a
signature-hash value does not change the evaluation of scripts that perform no signature checks."

What can be PROVED is the routing logic of the glue (`CG.Model.PyGlue`) on top of the interpreter and
signature-hash models; "same result as the Rust operation" is a statement about two implementations
of one function and is decided differentially on every run (Rust API vs the built extension).

* `C18_checker_irrelevant` — a run under the checker that fails every call (the
  `TransactionlessChecker`) which does not end in that checker's own error never consulted the checker:
  every checker, started in the same state, gives the identical result (stacks, position, state).
* `C18_z_does_not_change_eval` — hence `py_script_eval` and the repaired `py_script_eval_pystack`
  return the same thing with and without `z` on every script that performs no signature check.
  The pinned `py_script_eval_pystack` does not (`C18_z_changes_eval_pinned`: the swapped
  `(break_at, start_at)`), so the full statement for the pinned routing is refuted.
* `C18_verdict_is_top_of_stack` — the repaired `Context.evaluate` is `decode_bool` of the top item,
  i.e. "the numeric value of the top item is non-zero", and coincides with `Script::eval`'s verdict;
  the pinned one inspects the bottom with a comparison that never matches
  (`C18_verdict_pinned_bottom_of_stack`).
* `C18_wrappers_no_panic` — every modelled wrapper of the repaired glue maps every argument to a
  value or an ordinary exception; the pinned `unwrap`/`expect` sites are witnessed
  (`C18_pinned_unwrap_panics`).
-/
namespace CG.Props.C18
open CG CG.Model.ScriptNum CG.Model.Interp CG.Model.PyGlue CG.Model.TxSer

/-- **Checker irrelevance.**  For every script, flag word, start/break offsets and initial stacks:
    if the evaluation under the checker that fails every call does not end in that checker's error,
    then every checker `C` (any behaviour whatsoever, same state type and initial state) produces
    exactly the same outcome — same stacks, same reported position, same (untouched) checker state,
    or the same error. -/
theorem C18_checker_irrelevant {σ : Type} (H : Hashes) (C : Checker σ) (c0 : σ) (script : Bytes)
    (flags : Nat) (start brk : Option Nat) (stack alt : Option Stack)
    (h : coreEval H (tless σ) c0 script flags start brk stack alt ≠ .err "IllegalState") :
    coreEval H C c0 script flags start brk stack alt
      = coreEval H (tless σ) c0 script flags start brk stack alt :=
  coreEval_tless H C c0 script flags start brk stack alt h

/-- the form quoted in the design: a *successful* run under the always-failing checker is the run
    under every checker -/
theorem C18_checker_irrelevant_ok {σ : Type} (H : Hashes) (C : Checker σ) (c0 : σ) (script : Bytes)
    (flags : Nat) (start brk : Option Nat) (stack alt : Option Stack) (r : EvalResult σ)
    (h : coreEval H (tless σ) c0 script flags start brk stack alt = .ok r) :
    coreEval H C c0 script flags start brk stack alt = .ok r := by
  rw [C18_checker_irrelevant H C c0 script flags start brk stack alt (by rw [h]; simp), h]

/-- two arbitrary checkers agree on every script whose failing-checker run performs no check -/
theorem C18_any_two_checkers_agree {σ : Type} (H : Hashes) (C C' : Checker σ) (c0 : σ) (script : Bytes)
    (flags : Nat) (start brk : Option Nat) (stack alt : Option Stack)
    (h : coreEval H (tless σ) c0 script flags start brk stack alt ≠ .err "IllegalState") :
    coreEval H C c0 script flags start brk stack alt = coreEval H C' c0 script flags start brk stack alt := by
  rw [C18_checker_irrelevant H C _ _ _ _ _ _ _ h, C18_checker_irrelevant H C' _ _ _ _ _ _ _ h]

/-- the hypothesis is necessary: a script that does reach a signature check depends on the checker -/
theorem C18_checker_relevant_when_called :
    coreEval ⟨id, id, id, id, id⟩ (tless Unit) () [0x51, 0x51, 0xac] 0 none none none none
      = .err "IllegalState" ∧
    (coreEval ⟨id, id, id, id, id⟩
        (⟨fun c _ _ _ => (.ok true, c), fun _ _ => .ok true, fun _ _ => .ok true⟩ : Checker Unit) ()
        [0x51, 0x51, 0xac] 0 none none none none).map (·.stack) = .ok [[1]] := by
  constructor
  · rfl
  · decide

/-- **`py_script_eval`**: with any 32-byte `z` the result equals the result without `z`, for every
    script, break offset and k256 behaviour, provided the script performs no signature check. -/
theorem C18_z_does_not_change_eval_simple (H : Hashes) (verify : Bytes → Bytes → Bytes → Outcome Bool)
    (script : Bytes) (brk : Option Nat) (z : Bytes) (hz : z.length = 32)
    (hno : coreEval H (tless Unit) () script 0 none brk none none ≠ .err "IllegalState") :
    pyScriptEval H verify script brk (some z) = pyScriptEval H verify script brk none := by
  unfold pyScriptEval
  simp only [hz, ne_eq, not_true_eq_false, if_false]
  rw [C18_checker_irrelevant H (zChecker Unit verify z) () script 0 none brk none none hno]

/-- **`py_script_eval_pystack` (repaired)**: with any 32-byte `z` the result equals the result
    without `z`, for every script, start and break offset, initial stacks and k256 behaviour,
    provided the script performs no signature check. -/
theorem C18_z_does_not_change_eval (H : Hashes) (verify : Bytes → Bytes → Bytes → Outcome Bool)
    (script : Bytes) (start brk : Option Nat) (z : Bytes) (hz : z.length = 32) (stack alt : Option Stack)
    (hno : coreEval H (tless Unit) () script 0 start brk stack alt ≠ .err "IllegalState") :
    pyScriptEvalPystack false H verify script start brk (some z) stack alt
      = pyScriptEvalPystack false H verify script start brk none stack alt := by
  unfold pyScriptEvalPystack
  simp only [hz, ne_eq, not_true_eq_false, if_false, Bool.false_eq_true]
  rw [C18_checker_irrelevant H (zChecker Unit verify z) () script 0 start brk stack alt hno]

/-- the same through `Context`: the verdict and the stacks do not depend on `z` -/
theorem C18_context_z_irrelevant (H : Hashes) (verify : Bytes → Bytes → Bytes → Outcome Bool)
    (script : Bytes) (s l : Option Nat) (z : Bytes) (hz : z.length = 32)
    (hno : coreEval H (tless Unit) () script 0 (normNat s) (normNat l) (some []) (some [])
            ≠ .err "IllegalState") :
    contextEvaluate false false H verify ⟨script, s, l, some z⟩
      = contextEvaluate false false H verify ⟨script, s, l, none⟩ := by
  have hzn : normZ (some z) = some z := by
    cases z with
    | nil => simp at hz
    | cons a r => rfl
  unfold contextEvaluate
  simp only [hzn]
  rw [C18_z_does_not_change_eval H verify script (normNat s) (normNat l) z hz _ _ hno]
  rfl

def noHashes : Hashes := ⟨id, id, id, id, id⟩
def z32 : Bytes := List.replicate 32 0

theorem add_example_no_check :
    coreEval noHashes (tless Unit) () [0x51, 0x52, 0x93] 0 (some 1) (some 2) none none ≠ .err "IllegalState" :=
  fun hc => by
    have h : (coreEval noHashes (tless Unit) () [0x51, 0x52, 0x93] 0 (some 1) (some 2) none none).map (·.stack)
        = .ok [[2]] := by decide
    rw [hc] at h
    cases h

/-- non-vacuity: `OP_1 OP_2 OP_ADD` from offset 1 to offset 2 satisfies the hypothesis and evaluates
    to `[2]` at position 2, with and without `z` -/
example (verify : Bytes → Bytes → Bytes → Outcome Bool) :
    coreEval noHashes (tless Unit) () [0x51, 0x52, 0x93] 0 (some 1) (some 2) none none ≠ .err "IllegalState" ∧
    pyScriptEvalPystack false noHashes verify [0x51, 0x52, 0x93] (some 1) (some 2) (some z32) none none
      = .ok ([[2]], [], some 2) := by
  constructor
  · exact add_example_no_check
  · rfl

/-- the statement for the PINNED routing (swapped offsets in the `z` branch) -/
def C18_z_does_not_change_eval_pinned : Prop :=
  ∀ (H : Hashes) (verify : Bytes → Bytes → Bytes → Outcome Bool) (script : Bytes) (start brk : Option Nat)
    (z : Bytes) (stack alt : Option Stack), z.length = 32 →
    coreEval H (tless Unit) () script 0 start brk stack alt ≠ .err "IllegalState" →
    pyScriptEvalPystack true H verify script start brk (some z) stack alt
      = pyScriptEvalPystack true H verify script start brk none stack alt

/-- **pinned defect**: `py_script_eval_pystack(OP_1 OP_2 OP_ADD, start_at=1, break_at=2, z)` returns
    an empty stack, without `z` it returns `[2]` -/
theorem C18_z_changes_eval_pinned (verify : Bytes → Bytes → Bytes → Outcome Bool) :
    pyScriptEvalPystack true noHashes verify [0x51, 0x52, 0x93] (some 1) (some 2) (some z32) none none
      = .ok ([], [], some 2) ∧
    pyScriptEvalPystack true noHashes verify [0x51, 0x52, 0x93] (some 1) (some 2) none none none
      = .ok ([[2]], [], some 2) := by
  constructor <;> rfl

theorem C18_z_does_not_change_eval_pinned_false : ¬ C18_z_does_not_change_eval_pinned := by
  intro h
  have h1 := h noHashes (fun _ _ _ => .ok true) [0x51, 0x52, 0x93] (some 1) (some 2) z32 none none rfl
    add_example_no_check
  have h2 := C18_z_changes_eval_pinned (fun _ _ _ => .ok true)
  rw [h2.1, h2.2] at h1
  exact absurd h1 (by decide)

/-- the rule written in the repaired context.py is `decode_bool` -/
theorem C18_pyTruth_is_decode_bool (t : Bytes) : pyTruth t = decodeBool t := rfl

/-- **Verdict.**  The repaired `Context.evaluate` answers `True` exactly when the evaluation
    completed, the stack is non-empty and the numeric value of its TOP item is non-zero (negative
    zero, `00`, `00 00` are false) — `decode_bool` of the top item, the rule of `Script::eval`. -/
theorem C18_verdict_is_top_of_stack (H : Hashes) (verify : Bytes → Bytes → Bytes → Outcome Bool) (c : Ctx)
    (v : Bool) (s a : Stack) (h : contextEvaluate false false H verify c = .ok (v, s, a)) :
    v = true ↔
      ∃ t r p, pyScriptEvalPystack false H verify c.script (normNat c.ipStart) (normNat c.ipLimit)
                (normZ c.z) (some []) (some []) = .ok (t :: r, a, p) ∧ s = t :: r ∧ decodeBool t = true
              ∧ decodeBig t ≠ 0 := by
  unfold contextEvaluate at h
  cases hp : pyScriptEvalPystack false H verify c.script (normNat c.ipStart) (normNat c.ipLimit)
      (normZ c.z) (some []) (some []) with
  | panic p => rw [hp] at h; cases h
  | err e =>
    rw [hp] at h
    cases h
    simp
  | ok o =>
    obtain ⟨s', a', p'⟩ := o
    rw [hp] at h
    cases h
    cases s with
    | nil => simp [verdictFixed]
    | cons t r =>
      -- the verdict is `pyTruth t`, which is `decodeBool t` by definition
      constructor
      · intro ht
        exact ⟨t, r, p', rfl, rfl, ht, (CG.Props.C01.C01_decodeBool_iff t).mp ht⟩
      · rintro ⟨_, _, _, _, hs, ht, _⟩
        cases hs
        exact ht

/-- with no offsets and no `z`, `Context.evaluate` (repaired) and `Script::eval` under the
    `TransactionlessChecker` give the same verdict for every script -/
theorem C18_verdict_eq_core_eval (H : Hashes) (verify : Bytes → Bytes → Bytes → Outcome Bool) (script : Bytes) :
    ((contextEvaluate false false H verify ⟨script, none, none, none⟩).map (·.1) = .ok true) ↔
      (Model.Interp.eval H (tless Unit) () script 0 = .ok ()) := by
  have hc : coreEval H (tless Unit) () script 0 none none (some []) (some [])
      = coreEval H (tless Unit) () script 0 none none none none := rfl
  unfold contextEvaluate pyScriptEvalPystack Model.Interp.eval
  simp only [normNat, normZ, hc]
  cases coreEval H (tless Unit) () script 0 none none none none with
  | panic p => simp [toPy, Outcome.map]
  | err e => simp [toPy, Outcome.map]
  | ok r =>
    cases hs : r.stack with
    | nil => simp [toPy, Outcome.map, hs, verdictFixed, scriptErr]
    | cons t rest =>
      cases hb : decodeBool t <;>
        simp [toPy, Outcome.map, hs, verdictFixed, C18_pyTruth_is_decode_bool, hb, scriptErr]

/-- **pinned defect**: the pinned verdict looks at the bottom with a comparison that never matches —
    `OP_1 OP_0` (top false), a lone negative zero and a lone `00 00` are reported true while the
    repaired verdict and the core say false -/
theorem C18_verdict_pinned_bottom_of_stack (verify : Bytes → Bytes → Bytes → Outcome Bool) :
    (contextEvaluate false true noHashes verify ⟨[0x51, 0x00], none, none, none⟩).map (·.1) = .ok true ∧
    (contextEvaluate false false noHashes verify ⟨[0x51, 0x00], none, none, none⟩).map (·.1) = .ok false ∧
    Model.Interp.eval noHashes (tless Unit) () [0x51, 0x00] 0 = .err "ScriptError" ∧
    (contextEvaluate false true noHashes verify ⟨[0x01, 0x80], none, none, none⟩).map (·.1) = .ok true ∧
    (contextEvaluate false false noHashes verify ⟨[0x01, 0x80], none, none, none⟩).map (·.1) = .ok false ∧
    (contextEvaluate false true noHashes verify ⟨[0x02, 0x00, 0x00], none, none, none⟩).map (·.1) = .ok true ∧
    (contextEvaluate false false noHashes verify ⟨[0x02, 0x00, 0x00], none, none, none⟩).map (·.1) = .ok false := by
  refine ⟨rfl, rfl, by decide, rfl, rfl, rfl, rfl⟩

/-- the pinned verdict is true on EVERY stack of two or more items and on every single item other
    than `[]` and `[0]`, whatever the top is -/
theorem C18_verdict_pinned_ignores_top (t u : Bytes) (r : Stack) : verdictPinned (t :: u :: r) = true := rfl

theorem toPy_ne_panic {α : Type} (o : Outcome α) (h : ∀ p, o ≠ .panic p) (p : String) : toPy o ≠ .panic p := by
  cases o with
  | ok a => simp [toPy]
  | err e => simp [toPy]
  | panic q => exact absurd rfl (h q)

theorem tless_never_panics (σ : Type) : (tless σ).NeverPanics := by
  refine ⟨?_, ?_, ?_⟩ <;> intros <;> simp [tless]

theorem zChecker_never_panics (σ : Type) (verify : Bytes → Bytes → Bytes → Outcome Bool)
    (hv : ∀ z d k p, verify z d k ≠ .panic p) (z : Bytes) : (zChecker σ verify z).NeverPanics := by
  refine ⟨?_, ?_, ?_⟩
  · intro c sig pk scr s
    simp only [zChecker]
    split
    · simp
    · split
      · simp
      · exact hv _ _ _ _
  · intros; simp [zChecker]
  · intros; simp [zChecker]

/-- the exit shared by the evaluation wrappers: the core's result through `toPy`, then a projection -/
theorem evalOut_ne_panic {β : Type} (H : Hashes) (C : Checker Unit) (hC : C.NeverPanics) (f : EvalResult Unit → β)
    (script : Bytes) (start brk : Option Nat) (stack alt : Option Stack) (p : String) :
    (toPy (coreEval H C () script 0 start brk stack alt)).map f ≠ .panic p :=
  Outcome.map_ne_panic (toPy_ne_panic _ (CG.Props.C07.C07_no_panic H C hC () script 0 start brk stack alt)) p

section
variable (H : Hashes) (verify : Bytes → Bytes → Bytes → Outcome Bool)
  (hv : ∀ z d k p, verify z d k ≠ .panic p) (p : String)
include hv

theorem pyScriptEval_ne_panic (script : Bytes) (brk : Option Nat) (z : Option Bytes) :
    pyScriptEval H verify script brk z ≠ .panic p := by
  cases z with
  | none => exact evalOut_ne_panic H _ (tless_never_panics Unit) _ _ _ _ _ _ p
  | some zb =>
    exact Outcome.ite_ne_panic nofun (evalOut_ne_panic H _ (zChecker_never_panics Unit verify hv zb) _ _ _ _ _ _ p)

theorem pyScriptEvalPystack_ne_panic (pinned : Bool) (script : Bytes) (start brk : Option Nat)
    (z : Option Bytes) (stack alt : Option Stack) :
    pyScriptEvalPystack pinned H verify script start brk z stack alt ≠ .panic p := by
  cases z with
  | none => exact evalOut_ne_panic H _ (tless_never_panics Unit) _ _ _ _ _ _ p
  | some zb =>
    have hz := zChecker_never_panics Unit verify hv zb
    exact Outcome.ite_ne_panic nofun
      (Outcome.ite_ne_panic (evalOut_ne_panic H _ hz _ _ _ _ _ _ p) (evalOut_ne_panic H _ hz _ _ _ _ _ _ p))

theorem contextEvaluate_ne_panic (pg pv : Bool) (c : Ctx) : contextEvaluate pg pv H verify c ≠ .panic p := by
  unfold contextEvaluate
  cases h : pyScriptEvalPystack pg H verify c.script (normNat c.ipStart) (normNat c.ipLimit) (normZ c.z)
      (some []) (some []) with
  | ok o => nofun
  | err e => nofun
  | panic q => exact absurd h (pyScriptEvalPystack_ne_panic H verify hv q _ _ _ _ _ _ _)

end

theorem asTxIns_fixed_no_panic (l : List PyTxIn) : ∀ p : String, asTxIns false l ≠ .panic p := by
  induction l with
  | nil => simp [asTxIns]
  | cons i r ih =>
    intro p
    unfold asTxIns asTxIn hashDecode
    cases hexDecode i.prevTx with
    | none => simp
    | some b =>
      by_cases hl : b.length ≠ 32
      · simp [hl]
      · simp only [hl, if_false]
        cases hr : asTxIns false r with
        | ok ts => simp
        | err e => simp
        | panic q => exact absurd hr (ih q)

theorem asTx_fixed_no_panic (t : PyTx) (p : String) : asTx false t ≠ .panic p := by
  unfold asTx
  cases h : asTxIns false t.txIns with
  | ok ins => simp
  | err e => simp
  | panic q => exact absurd h (asTxIns_fixed_no_panic _ _)

section
variable (D : Bytes → Bytes) (t : PyTx) (n : Nat) (code : Bytes) (k : Nat) (sat : Int) (ty : UInt8) (p : String)

theorem pySigHash_ne_panic : pySigHash false D t n code k sat ty ≠ .panic p := by
  unfold pySigHash
  cases h : asTx false t with
  | err e => nofun
  | panic q => exact absurd h (asTx_fixed_no_panic _ _)
  | ok tx =>
    simp only []
    cases hs : (Model.Sighash.sighash D tx n code k sat ty Model.Sighash.Cache.empty).1 with
    | ok d => nofun
    | err e => nofun
    | panic q =>
      exact absurd hs ((CG.Props.C02.C02_never_panics D tx n code k sat ty Model.Sighash.Cache.empty).2.2 q)

theorem pySigHashPreimage_ne_panic : pySigHashPreimage false D t n code k sat ty ≠ .panic p := by
  unfold pySigHashPreimage
  cases h : asTx false t with
  | err e => nofun
  | panic q => exact absurd h (asTx_fixed_no_panic _ _)
  | ok tx =>
    simp only []
    cases hs : (Model.Sighash.preimage D tx n code k sat ty Model.Sighash.Cache.empty).1 with
    | ok d => nofun
    | err e => nofun
    | panic q =>
      exact absurd hs ((CG.Props.C02.C02_never_panics D tx n code k sat ty Model.Sighash.Cache.empty).2.1 q)

end

/-- **No wrapper panics** (repaired glue).  For every script, offsets, `z` of any length, initial
    stacks, context, transaction (any id strings), input index, script code, check index, amount,
    type byte, network name, key bytes and integer — and for every hash function, every k256
    verification behaviour that does not itself panic and every key-acceptance predicate — each
    modelled wrapper returns a value or raises an ordinary exception.  (`py_script_eval*` and
    `Context.evaluate` are panic-free in the pinned routing as well.) -/
theorem C18_wrappers_no_panic (H : Hashes) (verify : Bytes → Bytes → Bytes → Outcome Bool)
    (hv : ∀ z d k p, verify z d k ≠ .panic p) (D : Bytes → Bytes) (validKey : Bytes → Bool) (p : String) :
    (∀ script brk z, pyScriptEval H verify script brk z ≠ .panic p) ∧
    (∀ pinned script start brk z stack alt,
        pyScriptEvalPystack pinned H verify script start brk z stack alt ≠ .panic p) ∧
    (∀ pg pv c, contextEvaluate pg pv H verify c ≠ .panic p) ∧
    (∀ t, pyTxId false D t ≠ .panic p) ∧
    (∀ t n code k sat ty, pySigHash false D t n code k sat ty ≠ .panic p) ∧
    (∀ t n code k sat ty, pySigHashPreimage false D t n code k sat ty ≠ .panic p) ∧
    (∀ net key, walletFromBytes false validKey net key ≠ .panic p) ∧
    (∀ net v, walletFromInt false validKey net v ≠ .panic p) ∧
    (∀ s, decodeCombined s ≠ .panic p) :=
  -- the wallet constructors and `decode_number_combined` are nested `if`s whose leaves are values or errors
  ⟨pyScriptEval_ne_panic H verify hv p, pyScriptEvalPystack_ne_panic H verify hv p,
    contextEvaluate_ne_panic H verify hv p,
    fun t => toPy_ne_panic _ (Outcome.map_ne_panic (asTx_fixed_no_panic t)) p,
    fun t n code k sat ty => pySigHash_ne_panic D t n code k sat ty p,
    fun t n code k sat ty => pySigHashPreimage_ne_panic D t n code k sat ty p,
    fun _ _ => Outcome.ite_ne_panic nofun (Outcome.ite_ne_panic nofun (Outcome.ite_ne_panic nofun nofun)),
    fun _ _ => Outcome.ite_ne_panic nofun (Outcome.ite_ne_panic nofun (Outcome.ite_ne_panic nofun nofun)),
    fun s => Outcome.ite_ne_panic (CG.Model.Interp.decodeNum_ne_panic s p) nofun⟩

/-- the statement for the PINNED glue -/
def C18_wrappers_no_panic_pinned : Prop :=
  ∀ (D : Bytes → Bytes) (validKey : Bytes → Bool) (p : String),
    (∀ t, pyTxId true D t ≠ .panic p) ∧
    (∀ t n code k sat ty, pySigHash true D t n code k sat ty ≠ .panic p) ∧
    (∀ t n code k sat ty, pySigHashPreimage true D t n code k sat ty ≠ .panic p) ∧
    (∀ net key, walletFromBytes true validKey net key ≠ .panic p) ∧
    (∀ net v, walletFromInt true validKey net v ≠ .panic p)

def zeroId : Bytes := List.replicate 64 0x30     -- the string "00…0" (64 characters)

/-- **pinned defects**: `sig_hash` / `sig_hash_preimage` on an out-of-range input index, `Tx.id()`
    with the input id `"zz"`, `Wallet.from_bytes` / `from_int` with the zero key — each is a panic in
    the pinned glue and an ordinary exception in the repaired one -/
theorem C18_pinned_unwrap_panics (D : Bytes → Bytes) :
    let tx : PyTx := ⟨1, [⟨zeroId, 0, [], 0xffffffff⟩], [], 0⟩
    let bad : PyTx := ⟨1, [⟨[0x7a, 0x7a], 0, [], 0xffffffff⟩], [], 0⟩
    let nonZero : Bytes → Bool := fun k => k.any (· != 0)
    pySigHash true D tx 5 [0x51] 0 0 0x41 = .panic "called `Result::unwrap()` on an `Err` value" ∧
    pySigHash false D tx 5 [0x51] 0 0 0x41 = .err "ValueError" ∧
    pySigHashPreimage true D tx 5 [0x51] 0 0 0x41 = .panic "called `Result::unwrap()` on an `Err` value" ∧
    pySigHashPreimage false D tx 5 [0x51] 0 0 0x41 = .err "ValueError" ∧
    pyTxId true D bad = .panic "Error decoding hexstr prev outpoint" ∧
    pyTxId false D bad = .err "ValueError" ∧
    walletFromBytes true nonZero "BSV_Mainnet" (List.replicate 32 0) = .panic "Invalid private key" ∧
    walletFromBytes false nonZero "BSV_Mainnet" (List.replicate 32 0) = .err "ValueError" ∧
    walletFromInt true nonZero "BSV_Mainnet" 0 = .panic "Invalid private key" ∧
    walletFromInt false nonZero "BSV_Mainnet" 0 = .err "ValueError" := by
  refine ⟨rfl, rfl, rfl, rfl, rfl, rfl, by decide, by decide, by decide, by decide⟩

theorem C18_wrappers_no_panic_pinned_false : ¬ C18_wrappers_no_panic_pinned := by
  intro h
  have h1 := (h id (fun k => k.any (· != 0)) "Invalid private key").2.2.2.1 "BSV_Mainnet" (List.replicate 32 0)
  exact h1 (C18_pinned_unwrap_panics id).2.2.2.2.2.2.1

/-- `Stack.decode_element` (`decode_number_combined`) is the sign-magnitude value for every length -/
theorem C18_decode_element_eq_bigint (s : Bytes) : decodeCombined s = .ok (decodeBig s) := by
  unfold decodeCombined
  split
  · exact CG.Props.C01.C01_small_num_agree s (by assumption)
  · rfl

/-- pushing an integer (`push_bytes_integer` = `encode_bigint`) and decoding the element returns it -/
theorem C18_push_decode_roundtrip (z : Int) : decodeCombined (encodeBig z) = .ok z := by
  rw [C18_decode_element_eq_bigint, CG.Props.C01.C01_num_roundtrip]

end CG.Props.C18
