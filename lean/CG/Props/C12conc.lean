import CG.Proofs.PeerConc
import CG.Proofs.PeerRefine
/-!
# C12, concurrent part — the receive thread against local `send` / `disconnect` calls

Property theorems only.  Model: `CG.Model.PeerConc` (interleaving semantics of the connected phase at
the granularity of the shared accesses of `peer.rs`: flag load / swap, one `tcp_writer` critical
section, `shutdown`, the single-shot disconnected event); helper lemmas and invariants:
`CG.Proofs.PeerConc`.  Every theorem quantifies over ALL schedules (`List Nat` of thread ids, of any
length), any number of local threads with any programs, and any remote behaviour.

What the sequential model of `CG.Props.C12` linearised away — local calls racing the receive thread — is made exact
here: with a local `disconnect()` in the race at most one message is delivered after the disconnected event, and that
bound is attained (`C12_conc_late_delivery_witness`, replayed on the real code through the H3 sync points).
`C12_conc_refines_sequential_model` (from `CG.Proofs.PeerRefine`) relates the two models.
-/
namespace CG.Props.C12conc
open CG CG.Model.PeerConc CG.Proofs.PeerConc
open CG.Model.Peer (Output Msg Kind SendErr Wire delivered)

/-- **The disconnected event is published at most once** — any remote behaviour, any local programs
    (any mixture of `send` and `disconnect` calls on any number of threads), any schedule. -/
theorem C12_conc_disconnected_at_most_once (remote : List RemoteEv) (progs : List (List LOp))
    (sched : List Nat) : countDisc (run (init remote progs) sched).out ≤ 1 :=
  (run_inv1 (inv1_init remote progs) sched).cnt ▸ Bool.toNat_le _

/-- … and it is published only after the `connected` flag has been cleared, which is never set
    again: every `send` that starts afterwards is refused (see below). -/
theorem C12_conc_event_implies_flag_cleared (remote : List RemoteEv) (progs : List (List LOp))
    (sched : List Nat) :
    Output.emitDisconnected ∈ (run (init remote progs) sched).out →
      (run (init remote progs) sched).flag = false := by
  intro h
  have i := run_inv1 (inv1_init remote progs) sched
  exact i.firedFlag (i.fired h)

/-- **Ordered, at-most-once delivery under every interleaving**: what has been delivered, followed by
    the message the receive thread holds, followed by what the remote will still send, is a
    sub-sequence of the frames the remote sends — in particular the deliveries are. -/
theorem C12_conc_deliveries_in_order (remote : List RemoteEv) (progs : List (List LOp))
    (sched : List Nat) :
    (delivered (run (init remote progs) sched).out).Sublist (frames remote) := by
  have h := run_track (init remote progs) sched
  have h0 : track (init remote progs) = frames remote := by simp [track, init, delivered, pending]
  rw [h0] at h
  refine List.Sublist.trans ?_ h
  simp only [track, List.append_assoc]
  exact List.sublist_append_left _ _

/-- **Nothing is delivered after a remote-caused disconnection.**  If no local thread calls
    `disconnect()` and every message given to `send` is serialisable, then under EVERY interleaving of
    the receive thread with the local `send` calls no delivery follows the disconnected event. -/
theorem C12_conc_nothing_after_remote_disconnect (remote : List RemoteEv) (progs : List (List LOp))
    (hq : ∀ p ∈ progs, p.all quietOp = true) (sched : List Nat) :
    late (run (init remote progs) sched).out = 0 :=
  (run_invK (inv1_init remote progs) (invK_init remote progs hq) sched).late0

/-- **With local `disconnect()` calls in the race, at most one message is delivered after the
    event** — the one whose `connected` test (peer.rs:295) preceded the swap. -/
theorem C12_conc_at_most_one_late_delivery (remote : List RemoteEv) (progs : List (List LOp))
    (sched : List Nat) : late (run (init remote progs) sched).out ≤ 1 :=
  Nat.le_trans (Nat.le_add_right _ _) (run_inv12 (inv1_init remote progs) (inv2_init remote progs) sched).2

def witnessMsg : Msg := ⟨.plain, "inv", true⟩

/-- **The bound is attained**: one frame, one local thread calling `disconnect()`; the receive thread
    reads the frame and passes its flag test, the local thread runs `disconnect()` to the end, the
    receive thread then handles and publishes the message — after the disconnected event. -/
theorem C12_conc_late_delivery_witness :
    (run (init [.frame witnessMsg] [[.disconnect]]) [0, 0, 1, 1, 1, 1, 0, 0]).out =
      [.emitDisconnected, .deliver witnessMsg] ∧
    late (run (init [.frame witnessMsg] [[.disconnect]]) [0, 0, 1, 1, 1, 1, 0, 0]).out = 1 := by
  decide

/-- **A `send` that starts after the flag was cleared is refused at once** with `IllegalState`: one
    step, nothing written, no shared state changed. -/
theorem C12_conc_send_after_disconnect_is_error (s : St) (i : Nat) (m : Msg) (rest : List LOp)
    (hf : s.flag = false) (ht : s.locals[i]? = some ⟨.idle, .send m :: rest⟩) :
    step s (i + 1) = some { s with out := s.out ++ [.sendResult (some .illegalState)],
                                   locals := s.locals.set i ⟨.idle, rest⟩ } := by
  simp [step, ht, stepL, hf]

/-- **No local call blocks for good.**  In every reachable state a local thread that has not finished its
    program can take its next step, unless it waits for the `tcp_writer` mutex — and then the holder
    (a thread in the last step of `disconnect()`) can take ITS next step, which releases the mutex.
    `send` and `disconnect` contain no other wait; together with `C12_conc_send_after_disconnect_is_error`
    this is "later sends fail with an error instead of blocking". -/
theorem C12_conc_local_calls_never_block (remote : List RemoteEv) (progs : List (List LOp)) (sched : List Nat)
    (i : Nat) (t : LThread) (ht : (run (init remote progs) sched).locals[i]? = some t)
    (hbusy : t.pc ≠ .idle ∨ t.ops ≠ []) :
    (step (run (init remote progs) sched) (i + 1)).isSome = true ∨
    ∃ x, (run (init remote progs) sched).wlock = some x ∧ x ≠ i + 1 ∧
      (step (run (init remote progs) sched) x).isSome = true := by
  have hok := run_holderOk (holderOk_init remote progs) sched
  generalize run (init remote progs) sched = s at *
  cases hw : s.wlock with
  | none =>
    left
    have hL : (stepL s (i + 1) t).isSome = true := by
      obtain ⟨pc, ops⟩ := t
      cases pc with
      | idle =>
        cases ops with
        | nil => simp at hbusy
        | cons op rest =>
          cases op with
          | disconnect => simp [stepL]
          | send m => simp only [stepL]; split <;> rfl
      | write m => simp only [stepL, hw, Option.isSome_none, Bool.false_eq_true, if_false]; split <;> rfl
      | disc k ret =>
        simp only [stepL, discStep, hw, Option.isSome_none, Bool.false_eq_true, and_false, if_false]
        split
        · split <;> rfl
        · rfl
    simp only [step, ht]
    cases h : stepL s (i + 1) t with
    | none => simp [h] at hL
    | some p => rfl
  | some x =>
    by_cases hx : x = i + 1
    · left; subst hx; exact holder_can_step hok hw
    · right; exact ⟨x, rfl, hx, holder_can_step hok hw⟩

/-- **The sequential model of `CG.Props.C12` is this model under atomic schedules.**  For every list of
    sequential events of the connected phase (remote frames, garbage, close; local sends and disconnects),
    the interleaving model — started after the handshake with the remote events in its queue and the local
    calls as the program of one local thread — run under the schedule in which every event's steps are
    contiguous (`atomicSched`) logs exactly the outputs of the sequential model: every theorem of
    `CG.Props.C12` about the connected phase is a statement about these schedules, and the theorems above
    say what the other schedules add. -/
theorem C12_conc_refines_sequential_model (filter : CG.Model.Peer.VersionInfo → Bool)
    (es : List CG.Model.Peer.Event) :
    (run (init (CG.Proofs.PeerRefine.remotes es) [CG.Proofs.PeerRefine.locals es])
        (CG.Proofs.PeerRefine.atomicSched filter CG.Proofs.PeerRefine.seqInit es)).out =
      (CG.Model.Peer.runFrom filter CG.Proofs.PeerRefine.seqInit es).2 := by
  obtain ⟨rem', h⟩ := CG.Proofs.PeerRefine.refines filter es _ CG.Proofs.PeerRefine.seqOk_init
    (CG.Proofs.PeerRefine.remotes es) [] (fun _ => rfl)
  have e0 : init (CG.Proofs.PeerRefine.remotes es) [CG.Proofs.PeerRefine.locals es] =
      CG.Proofs.PeerRefine.shape CG.Proofs.PeerRefine.seqInit (CG.Proofs.PeerRefine.remotes es) es [] := by
    simp [init, CG.Proofs.PeerRefine.shape, CG.Proofs.PeerRefine.seqInit]
  rw [e0, h]
  simp [CG.Proofs.PeerRefine.shape]

/-! Non-vacuity: the hypotheses of the quiet theorem are satisfiable and its conclusion is not
trivial (a remote close with a concurrent local send: the event is published, nothing follows). -/
example : ([[LOp.send witnessMsg], [LOp.send witnessMsg, LOp.send witnessMsg]] : List (List LOp)).all
    (fun p => p.all quietOp) = true := by decide
example : (run (init [.frame witnessMsg, .fail] [[.send witnessMsg]]) [0, 0, 1, 0, 0, 0, 1, 0, 0, 0, 0, 0]).out =
    [.deliver witnessMsg, .wrote (.msg witnessMsg), .sendResult none, .emitDisconnected] := by decide

end CG.Props.C12conc
