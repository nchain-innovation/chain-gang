import CG.Proofs.InterpTotal
/-!
C07 — script evaluation is total.

"Evaluating an arbitrary byte string as a script - under any flag value, with or without a
spending-transaction context, and with any debugger start offset, break offset and initial stacks -
always terminates with success or an error value.  It never panics, indexes out of bounds, overflows
an integer, or loops without making progress through the script."

The theorems are about `CG.Model.Interp` (every Rust panic site is an explicit `Outcome.panic`, every
loop takes fuel and answers `.panic "out of fuel"` when it runs dry).  The transaction context is the
checker oracle `C : Checker σ`; the only thing assumed about it is that it does not panic itself
(`Checker.NeverPanics`).

Modelling assumptions, stated once:
* positions, lengths and script numbers are `Nat` / `Int` in the model, so no `script.length < 2^31`
  hypothesis is needed here; the Rust `as i32` / `as usize` casts on lengths are outside the model
  (they are exact for every script that fits the property's 2 GiB memory cap, and the correspondence
  run compares the model with the code on that range);
* hash functions are arbitrary total functions (`Hashes`).
-/
namespace CG.Props.C07
open CG CG.Model.ScriptNum CG.Model.Interp

theorem C07_next_op_progress (script : Bytes) (i : Nat) (h : i < script.length) :
    i < nextOp i script ∧ nextOp i script ≤ script.length :=
  nextOp_bounds h

theorem C07_next_op_at_end (script : Bytes) (i : Nat) (h : i ≥ script.length) :
    nextOp i script = script.length :=
  nextOp_of_ge h

/-- from a position inside the script (or at its end) `skip_branch` never moves backwards and never
    leaves the script -/
theorem C07_skip_branch_bounded (script : Bytes) (i : Nat) (h : i ≤ script.length) :
    i ≤ skipBranch script i ∧ skipBranch script i ≤ script.length :=
  ⟨skipBranch_ge script i h, skipBranch_le script i⟩

/-- from a position at or past the end it answers `script.length` (so it is `≤ script.length` for
    every `i`, and `< i` exactly when `i > script.length`) -/
theorem C07_skip_branch_past_end (script : Bytes) (i : Nat) (h : script.length ≤ i) :
    skipBranch script i = script.length :=
  skipBranch_of_ge script i h

/-- fuel-independence: any two fuels `≥ script.length - i + 1` give the same answer, for every nesting
    depth `sub`; the fuel `script.length + 1` used by `skipBranch` is one of them -/
theorem C07_skip_branch_fuel_independent (script : Bytes) (f1 f2 i sub : Nat)
    (h1 : script.length - i + 1 ≤ f1) (h2 : script.length - i + 1 ≤ f2) :
    skipBranchLoop script f1 i sub = skipBranchLoop script f2 i sub :=
  skipBranchLoop_fuel_indep script f1 f2 i sub (by omega) (by omega)

theorem C07_skip_branch_fuel_suffices (script : Bytes) (k i sub : Nat) :
    skipBranchLoop script (script.length + 1 + k) i sub = skipBranchLoop script (script.length + 1) i sub :=
  skipBranchLoop_fuel_indep script _ _ i sub (by omega) (by omega)

/-- fuel-independence of the `remove_sig` loop for a non-empty signature: any two fuels
    `≥ script.length + 1 - i` give the same bytes (each turn advances `i` by `sig.length ≥ 1` or by
    `next_op`) -/
theorem C07_remove_sig_terminates (sig script : Bytes) (hs : sig ≠ []) (f1 f2 i start : Nat) (acc : Bytes)
    (h1 : script.length + 1 - i ≤ f1) (h2 : script.length + 1 - i ≤ f2) :
    removeSigLoop sig script f1 i start acc = removeSigLoop sig script f2 i start acc :=
  removeSigLoop_fuel_indep sig script hs f1 f2 i start acc (by omega) (by omega)

/-- in particular the fuel `script.length + 1` that `removeSig` passes is never the reason it stops
    (for the empty signature `removeSig` does not enter the loop at all) -/
theorem C07_remove_sig_fuel_suffices (sig script : Bytes) (k : Nat) :
    removeSig sig script
      = if sig.isEmpty then script else removeSigLoop sig script (script.length + 1 + k) 0 0 [] := by
  unfold removeSig
  split
  · rfl
  · rename_i h
    have hs : sig ≠ [] := by simpa using h
    exact removeSigLoop_fuel_indep sig script hs _ _ 0 0 [] (by omega) (by omega)

/-- every arm of the opcode dispatch, in any state satisfying the invariant
    `checkIndex ≤ script.length`, at any position, with any checker that does not itself panic -/
theorem C07_exec_no_panic {σ : Type} (H : Hashes) (C : Checker σ) (hC : C.NeverPanics) (pregenesis : Bool)
    (script : Bytes) (i : Nat) (op : Op) (st : St σ) (hinv : st.checkIndex ≤ script.length) (s : String) :
    exec H C pregenesis script i op st ≠ .panic s :=
  (post_exec_checkIndex (n := max script.length (i + 1)) H C hC pregenesis script i op st
    (by omega) (by omega) hinv).ne_panic s

/-- the invariant is preserved at every position inside the script (`checkIndex` only changes at
    OP_CODESEPARATOR, to `i + 1 ≤ script.length`) -/
theorem C07_exec_check_index_invariant {σ : Type} (H : Hashes) (C : Checker σ) (hC : C.NeverPanics)
    (pregenesis : Bool) (script : Bytes) (i : Nat) (hi : i < script.length) (op : Op) (st st' : St σ)
    (stop : Bool) (hinv : st.checkIndex ≤ script.length)
    (h : exec H C pregenesis script i op st = .ok (stop, st')) : st'.checkIndex ≤ script.length :=
  (post_exec_checkIndex H C hC pregenesis script i op st hinv hi hinv).of_ok h

/-- without the invariant the `script[check_index..]` slice does panic: the hypothesis of
    `C07_exec_no_panic` is needed -/
theorem C07_exec_invariant_needed :
    exec (σ := Unit) ⟨id, id, id, id, id⟩ ⟨fun c _ _ _ => (.ok true, c), fun _ _ => .ok true, fun _ _ => .ok true⟩
        false [0xac] 0 .checksig ⟨[[], []], [], [], 2, ()⟩
      = .panic "script[check_index..]" := by
  rfl

/-- the main loop needs at most `script.length - start + 1` iterations: every fuel at least that large
    gives the same result as the fuel `script.length + 1` used by `core_eval` — for ANY per-opcode
    semantics and checker (so "out of fuel" is never produced by the loop with that fuel) -/
theorem C07_fuel_suffices {σ : Type} (H : Hashes) (C : Checker σ) (pregenesis : Bool) (script : Bytes)
    (breakAt : Option Nat) (fuel start : Nat) (st : St σ) (h : script.length - start + 1 ≤ fuel) :
    run H C pregenesis script breakAt fuel start st
      = run H C pregenesis script breakAt (script.length + 1) start st :=
  runWith_fuel_indep _ script breakAt fuel (script.length + 1) start st h (by omega)

/-- the loop never panics from a state with `checkIndex` inside the script, given the fuel `core_eval` uses -/
theorem C07_run_no_panic {σ : Type} (H : Hashes) (C : Checker σ) (hC : C.NeverPanics) (pregenesis : Bool)
    (script : Bytes) (breakAt : Option Nat) (fuel start : Nat) (st : St σ)
    (hf : script.length - start + 1 ≤ fuel) (hinv : st.checkIndex ≤ script.length) (s : String) :
    run H C pregenesis script breakAt fuel start st ≠ .panic s :=
  runWith_ne_panic _ script breakAt
    (fun i op st' hi hs => post_exec_checkIndex H C hC pregenesis script i op st' hs hi hs)
    fuel start st (by omega) (by omega) hinv s

/-- `core_eval` on any bytes, flag word, start offset, break offset and initial stacks, with any
    checker oracle that does not panic -/
theorem C07_no_panic {σ : Type} (H : Hashes) (C : Checker σ) (hC : C.NeverPanics) (c0 : σ) (script : Bytes)
    (flags : Nat) (startAt breakAt : Option Nat) (stack alt : Option Stack) (s : String) :
    coreEval H C c0 script flags startAt breakAt stack alt ≠ .panic s := by
  unfold coreEval
  simp only []
  split
  · simp
  · simp
  · rename_i p heq
    exact absurd heq (C07_run_no_panic H C hC _ script breakAt _ _ _ (by omega) (Nat.zero_le _) p)

/-- in particular the fuel `script.length + 1` is never exhausted -/
theorem C07_never_out_of_fuel {σ : Type} (H : Hashes) (C : Checker σ) (hC : C.NeverPanics) (c0 : σ)
    (script : Bytes) (flags : Nat) (startAt breakAt : Option Nat) (stack alt : Option Stack) :
    coreEval H C c0 script flags startAt breakAt stack alt ≠ .panic "out of fuel" :=
  C07_no_panic H C hC c0 script flags startAt breakAt stack alt _

theorem C07_eval_no_panic {σ : Type} (H : Hashes) (C : Checker σ) (hC : C.NeverPanics) (c0 : σ)
    (script : Bytes) (flags : Nat) (s : String) : eval H C c0 script flags ≠ .panic s := by
  unfold eval
  split
  · -- the leaves of the `ok` arm are `.ok ()` and `scriptErr`
    repeat' split
    all_goals simp [scriptErr]
  · simp
  · rename_i p heq
    exact absurd heq (C07_no_panic H C hC c0 script flags none none none none p)

theorem C07_always_terminates_with_value {σ : Type} (H : Hashes) (C : Checker σ) (hC : C.NeverPanics)
    (c0 : σ) (script : Bytes) (flags : Nat) (startAt breakAt : Option Nat) (stack alt : Option Stack) :
    (∃ r, coreEval H C c0 script flags startAt breakAt stack alt = .ok r) ∨
    (∃ e, coreEval H C c0 script flags startAt breakAt stack alt = .err e) := by
  cases h : coreEval H C c0 script flags startAt breakAt stack alt with
  | ok r => exact .inl ⟨r, rfl⟩
  | err e => exact .inr ⟨e, rfl⟩
  | panic p => exact absurd h (C07_no_panic H C hC c0 script flags startAt breakAt stack alt p)

theorem C07_eval_always_terminates_with_value {σ : Type} (H : Hashes) (C : Checker σ) (hC : C.NeverPanics)
    (c0 : σ) (script : Bytes) (flags : Nat) :
    eval H C c0 script flags = .ok () ∨ ∃ e, eval H C c0 script flags = .err e := by
  cases h : eval H C c0 script flags with
  | ok r => exact .inl rfl
  | err e => exact .inr ⟨e, rfl⟩
  | panic p => exact absurd h (C07_eval_no_panic H C hC c0 script flags p)

/-- identity "hashes" and a checker that accepts everything -/
def H0 : Hashes := ⟨id, id, id, id, id⟩
def yes : Checker Unit := ⟨fun c _ _ _ => (.ok true, c), fun _ _ => .ok true, fun _ _ => .ok true⟩
/-- a checker whose answers are errors (as the transactionless checker's are) -/
def refuse : Checker Nat :=
  ⟨fun c _ _ _ => (.err "IllegalState", c + 1), fun _ _ => .err "IllegalState", fun _ _ => .err "IllegalState"⟩

example : yes.NeverPanics := ⟨by simp [yes], by simp [yes], by simp [yes]⟩
example : refuse.NeverPanics := ⟨by simp [refuse], by simp [refuse], by simp [refuse]⟩

/-- a truncated PUSHDATA4 (`4e 01 00`): an error, not a slice panic -/
example : (coreEval H0 yes () [0x4e, 0x01, 0x00] 0 none none none none).isPanic = false ∧
          (coreEval H0 yes () [0x4e, 0x01, 0x00] 0 none none none none).isOk = false := by decide
/-- PUSHDATA4 announcing 4 GiB - 1 bytes -/
example : (coreEval H0 yes () [0x4e, 0xff, 0xff, 0xff, 0xff, 0x00] 1 none none none none).isOk = false := by
  decide
/-- start offset beyond the end, break offset beyond the end: immediate success with the given stacks -/
example : (coreEval H0 yes () [0x51] 0 (some 7) (some 9) (some [[1]]) none).isOk = true := by decide
/-- stack underflow in every shuffling opcode is an error -/
example : (coreEval H0 yes () [0x71] 0 none none (some [[1], [2], [3], [4], [5]]) none).isOk = false ∧
          (coreEval H0 yes () [0x71] 0 none none (some [[1], [2], [3], [4], [5]]) none).isPanic = false := by
  decide
/-- OP_1 OP_1 OP_CHECKSIGVERIFY OP_CODESEPARATOR OP_1 runs to success with the accepting checker, and
    to a (non-panic) error with the refusing one -/
example : (eval H0 yes () [0x51, 0x51, 0xad, 0xab, 0x51] 0) = .ok () := by decide
example : (eval H0 refuse 0 [0x51, 0x51, 0xad, 0xab, 0x51] 0) = .err "IllegalState" := by decide
/-- `next_op` on a truncated PUSHDATA2 lands exactly on the end -/
example : nextOp 0 [0x4d, 0x05] = 2 := by decide
/-- an unterminated skipped branch: `skip_branch` runs to the end, the script fails with an error -/
example : skipBranch [0x00, 0x63, 0x51, 0x63] 2 = 4 := by decide
example : (eval H0 yes () [0x00, 0x63, 0x51, 0x63] 0) = .err "ScriptError" := by decide

end CG.Props.C07
