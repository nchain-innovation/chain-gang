import CG.Proofs.WireHeader
/-!
# C05 — P2P wire format: encode/decode round-trip and header consistency

Property theorems only.  Model: `CG.Model.Wire.*` (one codec per Rust `read`/`write`/`size`
triple; `Message::read/read_partial/write` in `Header.lean`); reference layout:
`CG.Spec.WireSpec`; combinator laws: `CG.Proofs.WireCodec`.

For every payload type `T` with codec `c` (`c.wf` is the explicit, decidable in-range predicate):
* `C05_T_dec_enc`      decoding the encoding of an in-range value returns it and consumes everything;
* `C05_T_size_exact`   `size()` is the number of bytes written;
* `C05_T_enc_eq_spec`  the bytes are the reference layout;
* `C05_T_fixpoint`     whatever decodes (canonical or not) re-encodes to bytes that decode to the same
                       value and re-encode to themselves; the decoder consumed a prefix of its input.
Then the same for `Message` with its header, for any hash function `H` in place of SHA-256.
`Message::Other` / `Message::Partial` are not protocol messages and are excluded (`Msg.InRange`).
-/
namespace CG.Props.C05
open CG CG.Model.Wire CG.Spec

theorem C05_var_int_dec_enc (v : Nat) (h : varint.wf v) : varint.dec (varint.enc v) = .ok (v, []) :=
  (varint_lawful.toEnd).dec_enc v h

theorem C05_var_int_size_exact (v : Nat) (h : varint.wf v) : (varint.enc v).length = varint.size v :=
  (varint_lawful.toEnd).size_eq v h

theorem C05_var_int_enc_eq_spec (v : Nat) (_h : varint.wf v) : varint.enc v = WireSpec.compactSize v :=
  varint_enc v

theorem C05_var_int_fixpoint (b : Bytes) (v : Nat) (r : Bytes) (h : varint.dec b = .ok (v, r)) :
    varint.wf v ∧ varint.dec (varint.enc v) = .ok (v, []) ∧
    (∀ v' r', varint.dec (varint.enc v) = .ok (v', r') → varint.enc v' = varint.enc v) ∧ ∃ p, b = p ++ r :=
  varint_lawful.toEnd.roundtrip h

theorem C05_outpoint_dec_enc (v : OutPoint) (h : outPointC.wf v) : outPointC.dec (outPointC.enc v) = .ok (v, []) :=
  (outPointC_lawful.toEnd).dec_enc v h

theorem C05_outpoint_size_exact (v : OutPoint) (h : outPointC.wf v) : (outPointC.enc v).length = outPointC.size v :=
  (outPointC_lawful.toEnd).size_eq v h

theorem C05_outpoint_enc_eq_spec (v : OutPoint) (_h : outPointC.wf v) : outPointC.enc v = WireSpec.outPoint v :=
  outPoint_enc v

theorem C05_outpoint_fixpoint (b : Bytes) (v : OutPoint) (r : Bytes) (h : outPointC.dec b = .ok (v, r)) :
    outPointC.wf v ∧ outPointC.dec (outPointC.enc v) = .ok (v, []) ∧
    (∀ v' r', outPointC.dec (outPointC.enc v) = .ok (v', r') → outPointC.enc v' = outPointC.enc v) ∧ ∃ p, b = p ++ r :=
  outPointC_lawful.toEnd.roundtrip h

theorem C05_txin_dec_enc (v : TxIn) (h : txInC.wf v) : txInC.dec (txInC.enc v) = .ok (v, []) :=
  (txInC_lawful.toEnd).dec_enc v h

theorem C05_txin_size_exact (v : TxIn) (h : txInC.wf v) : (txInC.enc v).length = txInC.size v :=
  (txInC_lawful.toEnd).size_eq v h

theorem C05_txin_enc_eq_spec (v : TxIn) (_h : txInC.wf v) : txInC.enc v = WireSpec.txIn v :=
  txIn_enc v

theorem C05_txin_fixpoint (b : Bytes) (v : TxIn) (r : Bytes) (h : txInC.dec b = .ok (v, r)) :
    txInC.wf v ∧ txInC.dec (txInC.enc v) = .ok (v, []) ∧
    (∀ v' r', txInC.dec (txInC.enc v) = .ok (v', r') → txInC.enc v' = txInC.enc v) ∧ ∃ p, b = p ++ r :=
  txInC_lawful.toEnd.roundtrip h

theorem C05_txout_dec_enc (v : TxOut) (h : txOutC.wf v) : txOutC.dec (txOutC.enc v) = .ok (v, []) :=
  (txOutC_lawful.toEnd).dec_enc v h

theorem C05_txout_size_exact (v : TxOut) (h : txOutC.wf v) : (txOutC.enc v).length = txOutC.size v :=
  (txOutC_lawful.toEnd).size_eq v h

theorem C05_txout_enc_eq_spec (v : TxOut) (h : txOutC.wf v) : txOutC.enc v = WireSpec.txOut v :=
  txOut_enc v h

theorem C05_txout_fixpoint (b : Bytes) (v : TxOut) (r : Bytes) (h : txOutC.dec b = .ok (v, r)) :
    txOutC.wf v ∧ txOutC.dec (txOutC.enc v) = .ok (v, []) ∧
    (∀ v' r', txOutC.dec (txOutC.enc v) = .ok (v', r') → txOutC.enc v' = txOutC.enc v) ∧ ∃ p, b = p ++ r :=
  txOutC_lawful.toEnd.roundtrip h

theorem C05_tx_dec_enc (v : Tx) (h : txC.wf v) : txC.dec (txC.enc v) = .ok (v, []) :=
  (txC_lawful.toEnd).dec_enc v h

theorem C05_tx_size_exact (v : Tx) (h : txC.wf v) : (txC.enc v).length = txC.size v :=
  (txC_lawful.toEnd).size_eq v h

theorem C05_tx_enc_eq_spec (v : Tx) (h : txC.wf v) : txC.enc v = WireSpec.tx v :=
  tx_enc v h

theorem C05_tx_fixpoint (b : Bytes) (v : Tx) (r : Bytes) (h : txC.dec b = .ok (v, r)) :
    txC.wf v ∧ txC.dec (txC.enc v) = .ok (v, []) ∧
    (∀ v' r', txC.dec (txC.enc v) = .ok (v', r') → txC.enc v' = txC.enc v) ∧ ∃ p, b = p ++ r :=
  txC_lawful.toEnd.roundtrip h

theorem C05_blockheader_dec_enc (v : BlockHeader) (h : blockHeaderC.wf v) : blockHeaderC.dec (blockHeaderC.enc v) = .ok (v, []) :=
  (blockHeaderC_lawful.toEnd).dec_enc v h

theorem C05_blockheader_size_exact (v : BlockHeader) (h : blockHeaderC.wf v) : (blockHeaderC.enc v).length = blockHeaderC.size v :=
  (blockHeaderC_lawful.toEnd).size_eq v h

theorem C05_blockheader_enc_eq_spec (v : BlockHeader) (_h : blockHeaderC.wf v) : blockHeaderC.enc v = WireSpec.blockHeader v :=
  blockHeader_enc v

theorem C05_blockheader_fixpoint (b : Bytes) (v : BlockHeader) (r : Bytes) (h : blockHeaderC.dec b = .ok (v, r)) :
    blockHeaderC.wf v ∧ blockHeaderC.dec (blockHeaderC.enc v) = .ok (v, []) ∧
    (∀ v' r', blockHeaderC.dec (blockHeaderC.enc v) = .ok (v', r') → blockHeaderC.enc v' = blockHeaderC.enc v) ∧ ∃ p, b = p ++ r :=
  blockHeaderC_lawful.toEnd.roundtrip h

theorem C05_invvect_dec_enc (v : InvVect) (h : invVectC.wf v) : invVectC.dec (invVectC.enc v) = .ok (v, []) :=
  (invVectC_lawful.toEnd).dec_enc v h

theorem C05_invvect_size_exact (v : InvVect) (h : invVectC.wf v) : (invVectC.enc v).length = invVectC.size v :=
  (invVectC_lawful.toEnd).size_eq v h

theorem C05_invvect_enc_eq_spec (v : InvVect) (_h : invVectC.wf v) : invVectC.enc v = WireSpec.invVect v :=
  invVect_enc v

theorem C05_invvect_fixpoint (b : Bytes) (v : InvVect) (r : Bytes) (h : invVectC.dec b = .ok (v, r)) :
    invVectC.wf v ∧ invVectC.dec (invVectC.enc v) = .ok (v, []) ∧
    (∀ v' r', invVectC.dec (invVectC.enc v) = .ok (v', r') → invVectC.enc v' = invVectC.enc v) ∧ ∃ p, b = p ++ r :=
  invVectC_lawful.toEnd.roundtrip h

theorem C05_inv_dec_enc (v : Inv) (h : invC.wf v) : invC.dec (invC.enc v) = .ok (v, []) :=
  (invC_lawful.toEnd).dec_enc v h

theorem C05_inv_size_exact (v : Inv) (h : invC.wf v) : (invC.enc v).length = invC.size v :=
  (invC_lawful.toEnd).size_eq v h

theorem C05_inv_enc_eq_spec (v : Inv) (_h : invC.wf v) : invC.enc v = WireSpec.inv v :=
  inv_enc v

theorem C05_inv_fixpoint (b : Bytes) (v : Inv) (r : Bytes) (h : invC.dec b = .ok (v, r)) :
    invC.wf v ∧ invC.dec (invC.enc v) = .ok (v, []) ∧
    (∀ v' r', invC.dec (invC.enc v) = .ok (v', r') → invC.enc v' = invC.enc v) ∧ ∃ p, b = p ++ r :=
  invC_lawful.toEnd.roundtrip h

theorem C05_blocklocator_dec_enc (v : BlockLocator) (h : blockLocatorC.wf v) : blockLocatorC.dec (blockLocatorC.enc v) = .ok (v, []) :=
  (blockLocatorC_lawful.toEnd).dec_enc v h

theorem C05_blocklocator_size_exact (v : BlockLocator) (h : blockLocatorC.wf v) : (blockLocatorC.enc v).length = blockLocatorC.size v :=
  (blockLocatorC_lawful.toEnd).size_eq v h

theorem C05_blocklocator_enc_eq_spec (v : BlockLocator) (_h : blockLocatorC.wf v) : blockLocatorC.enc v = WireSpec.blockLocator v :=
  blockLocator_enc v

theorem C05_blocklocator_fixpoint (b : Bytes) (v : BlockLocator) (r : Bytes) (h : blockLocatorC.dec b = .ok (v, r)) :
    blockLocatorC.wf v ∧ blockLocatorC.dec (blockLocatorC.enc v) = .ok (v, []) ∧
    (∀ v' r', blockLocatorC.dec (blockLocatorC.enc v) = .ok (v', r') → blockLocatorC.enc v' = blockLocatorC.enc v) ∧ ∃ p, b = p ++ r :=
  blockLocatorC_lawful.toEnd.roundtrip h

theorem C05_ping_dec_enc (v : Ping) (h : pingC.wf v) : pingC.dec (pingC.enc v) = .ok (v, []) :=
  (pingC_lawful.toEnd).dec_enc v h

theorem C05_ping_size_exact (v : Ping) (h : pingC.wf v) : (pingC.enc v).length = pingC.size v :=
  (pingC_lawful.toEnd).size_eq v h

theorem C05_ping_enc_eq_spec (v : Ping) (_h : pingC.wf v) : pingC.enc v = WireSpec.ping v :=
  ping_enc v

theorem C05_ping_fixpoint (b : Bytes) (v : Ping) (r : Bytes) (h : pingC.dec b = .ok (v, r)) :
    pingC.wf v ∧ pingC.dec (pingC.enc v) = .ok (v, []) ∧
    (∀ v' r', pingC.dec (pingC.enc v) = .ok (v', r') → pingC.enc v' = pingC.enc v) ∧ ∃ p, b = p ++ r :=
  pingC_lawful.toEnd.roundtrip h

theorem C05_feefilter_dec_enc (v : FeeFilter) (h : feeFilterC.wf v) : feeFilterC.dec (feeFilterC.enc v) = .ok (v, []) :=
  (feeFilterC_lawful.toEnd).dec_enc v h

theorem C05_feefilter_size_exact (v : FeeFilter) (h : feeFilterC.wf v) : (feeFilterC.enc v).length = feeFilterC.size v :=
  (feeFilterC_lawful.toEnd).size_eq v h

theorem C05_feefilter_enc_eq_spec (v : FeeFilter) (_h : feeFilterC.wf v) : feeFilterC.enc v = WireSpec.feeFilter v :=
  feeFilter_enc v

theorem C05_feefilter_fixpoint (b : Bytes) (v : FeeFilter) (r : Bytes) (h : feeFilterC.dec b = .ok (v, r)) :
    feeFilterC.wf v ∧ feeFilterC.dec (feeFilterC.enc v) = .ok (v, []) ∧
    (∀ v' r', feeFilterC.dec (feeFilterC.enc v) = .ok (v', r') → feeFilterC.enc v' = feeFilterC.enc v) ∧ ∃ p, b = p ++ r :=
  feeFilterC_lawful.toEnd.roundtrip h

theorem C05_sendcmpct_dec_enc (v : SendCmpct) (h : sendCmpctC.wf v) : sendCmpctC.dec (sendCmpctC.enc v) = .ok (v, []) :=
  (sendCmpctC_lawful.toEnd).dec_enc v h

theorem C05_sendcmpct_size_exact (v : SendCmpct) (h : sendCmpctC.wf v) : (sendCmpctC.enc v).length = sendCmpctC.size v :=
  (sendCmpctC_lawful.toEnd).size_eq v h

theorem C05_sendcmpct_enc_eq_spec (v : SendCmpct) (_h : sendCmpctC.wf v) : sendCmpctC.enc v = WireSpec.sendCmpct v :=
  sendCmpct_enc v

theorem C05_sendcmpct_fixpoint (b : Bytes) (v : SendCmpct) (r : Bytes) (h : sendCmpctC.dec b = .ok (v, r)) :
    sendCmpctC.wf v ∧ sendCmpctC.dec (sendCmpctC.enc v) = .ok (v, []) ∧
    (∀ v' r', sendCmpctC.dec (sendCmpctC.enc v) = .ok (v', r') → sendCmpctC.enc v' = sendCmpctC.enc v) ∧ ∃ p, b = p ++ r :=
  sendCmpctC_lawful.toEnd.roundtrip h

theorem C05_nodeaddr_dec_enc (v : NodeAddr) (h : nodeAddrC.wf v) : nodeAddrC.dec (nodeAddrC.enc v) = .ok (v, []) :=
  (nodeAddrC_lawful.toEnd).dec_enc v h

theorem C05_nodeaddr_size_exact (v : NodeAddr) (h : nodeAddrC.wf v) : (nodeAddrC.enc v).length = nodeAddrC.size v :=
  (nodeAddrC_lawful.toEnd).size_eq v h

theorem C05_nodeaddr_enc_eq_spec (v : NodeAddr) (_h : nodeAddrC.wf v) : nodeAddrC.enc v = WireSpec.nodeAddr v :=
  nodeAddr_enc v

theorem C05_nodeaddr_fixpoint (b : Bytes) (v : NodeAddr) (r : Bytes) (h : nodeAddrC.dec b = .ok (v, r)) :
    nodeAddrC.wf v ∧ nodeAddrC.dec (nodeAddrC.enc v) = .ok (v, []) ∧
    (∀ v' r', nodeAddrC.dec (nodeAddrC.enc v) = .ok (v', r') → nodeAddrC.enc v' = nodeAddrC.enc v) ∧ ∃ p, b = p ++ r :=
  nodeAddrC_lawful.toEnd.roundtrip h

theorem C05_nodeaddrex_dec_enc (v : NodeAddrEx) (h : nodeAddrExC.wf v) : nodeAddrExC.dec (nodeAddrExC.enc v) = .ok (v, []) :=
  (nodeAddrExC_lawful.toEnd).dec_enc v h

theorem C05_nodeaddrex_size_exact (v : NodeAddrEx) (h : nodeAddrExC.wf v) : (nodeAddrExC.enc v).length = nodeAddrExC.size v :=
  (nodeAddrExC_lawful.toEnd).size_eq v h

theorem C05_nodeaddrex_enc_eq_spec (v : NodeAddrEx) (_h : nodeAddrExC.wf v) : nodeAddrExC.enc v = WireSpec.nodeAddrEx v :=
  nodeAddrEx_enc v

theorem C05_nodeaddrex_fixpoint (b : Bytes) (v : NodeAddrEx) (r : Bytes) (h : nodeAddrExC.dec b = .ok (v, r)) :
    nodeAddrExC.wf v ∧ nodeAddrExC.dec (nodeAddrExC.enc v) = .ok (v, []) ∧
    (∀ v' r', nodeAddrExC.dec (nodeAddrExC.enc v) = .ok (v', r') → nodeAddrExC.enc v' = nodeAddrExC.enc v) ∧ ∃ p, b = p ++ r :=
  nodeAddrExC_lawful.toEnd.roundtrip h

theorem C05_version_dec_enc (v : Version) (h : versionC.wf v) : versionC.dec (versionC.enc v) = .ok (v, []) :=
  (versionC_lawfulEnd).dec_enc v h

theorem C05_version_size_exact (v : Version) (h : versionC.wf v) : (versionC.enc v).length = versionC.size v :=
  (versionC_lawfulEnd).size_eq v h

theorem C05_version_enc_eq_spec (v : Version) (h : versionC.wf v) : versionC.enc v = WireSpec.version v :=
  version_enc v h

theorem C05_version_fixpoint (b : Bytes) (v : Version) (r : Bytes) (h : versionC.dec b = .ok (v, r)) :
    versionC.wf v ∧ versionC.dec (versionC.enc v) = .ok (v, []) ∧
    (∀ v' r', versionC.dec (versionC.enc v) = .ok (v', r') → versionC.enc v' = versionC.enc v) ∧ ∃ p, b = p ++ r :=
  versionC_lawfulEnd.roundtrip h

theorem C05_addr_dec_enc (v : Addr) (h : addrC.wf v) : addrC.dec (addrC.enc v) = .ok (v, []) :=
  (addrC_lawful.toEnd).dec_enc v h

theorem C05_addr_size_exact (v : Addr) (h : addrC.wf v) : (addrC.enc v).length = addrC.size v :=
  (addrC_lawful.toEnd).size_eq v h

theorem C05_addr_enc_eq_spec (v : Addr) (_h : addrC.wf v) : addrC.enc v = WireSpec.addr v :=
  addr_enc v

theorem C05_addr_fixpoint (b : Bytes) (v : Addr) (r : Bytes) (h : addrC.dec b = .ok (v, r)) :
    addrC.wf v ∧ addrC.dec (addrC.enc v) = .ok (v, []) ∧
    (∀ v' r', addrC.dec (addrC.enc v) = .ok (v', r') → addrC.enc v' = addrC.enc v) ∧ ∃ p, b = p ++ r :=
  addrC_lawful.toEnd.roundtrip h

theorem C05_headers_dec_enc (v : Headers) (h : headersC.wf v) : headersC.dec (headersC.enc v) = .ok (v, []) :=
  (headersC_lawful.toEnd).dec_enc v h

theorem C05_headers_size_exact (v : Headers) (h : headersC.wf v) : (headersC.enc v).length = headersC.size v :=
  (headersC_lawful.toEnd).size_eq v h

theorem C05_headers_enc_eq_spec (v : Headers) (_h : headersC.wf v) : headersC.enc v = WireSpec.headers v :=
  headers_enc v

theorem C05_headers_fixpoint (b : Bytes) (v : Headers) (r : Bytes) (h : headersC.dec b = .ok (v, r)) :
    headersC.wf v ∧ headersC.dec (headersC.enc v) = .ok (v, []) ∧
    (∀ v' r', headersC.dec (headersC.enc v) = .ok (v', r') → headersC.enc v' = headersC.enc v) ∧ ∃ p, b = p ++ r :=
  headersC_lawful.toEnd.roundtrip h

theorem C05_block_dec_enc (v : Block) (h : blockC.wf v) : blockC.dec (blockC.enc v) = .ok (v, []) :=
  (blockC_lawful.toEnd).dec_enc v h

theorem C05_block_size_exact (v : Block) (h : blockC.wf v) : (blockC.enc v).length = blockC.size v :=
  (blockC_lawful.toEnd).size_eq v h

theorem C05_block_enc_eq_spec (v : Block) (h : blockC.wf v) : blockC.enc v = WireSpec.block v :=
  block_enc v h

theorem C05_block_fixpoint (b : Bytes) (v : Block) (r : Bytes) (h : blockC.dec b = .ok (v, r)) :
    blockC.wf v ∧ blockC.dec (blockC.enc v) = .ok (v, []) ∧
    (∀ v' r', blockC.dec (blockC.enc v) = .ok (v', r') → blockC.enc v' = blockC.enc v) ∧ ∃ p, b = p ++ r :=
  blockC_lawful.toEnd.roundtrip h

theorem C05_merkleblock_dec_enc (v : MerkleBlock) (h : merkleBlockC.wf v) : merkleBlockC.dec (merkleBlockC.enc v) = .ok (v, []) :=
  (merkleBlockC_lawful.toEnd).dec_enc v h

theorem C05_merkleblock_size_exact (v : MerkleBlock) (h : merkleBlockC.wf v) : (merkleBlockC.enc v).length = merkleBlockC.size v :=
  (merkleBlockC_lawful.toEnd).size_eq v h

theorem C05_merkleblock_enc_eq_spec (v : MerkleBlock) (_h : merkleBlockC.wf v) : merkleBlockC.enc v = WireSpec.merkleBlock v :=
  merkleBlock_enc v

theorem C05_merkleblock_fixpoint (b : Bytes) (v : MerkleBlock) (r : Bytes) (h : merkleBlockC.dec b = .ok (v, r)) :
    merkleBlockC.wf v ∧ merkleBlockC.dec (merkleBlockC.enc v) = .ok (v, []) ∧
    (∀ v' r', merkleBlockC.dec (merkleBlockC.enc v) = .ok (v', r') → merkleBlockC.enc v' = merkleBlockC.enc v) ∧ ∃ p, b = p ++ r :=
  merkleBlockC_lawful.toEnd.roundtrip h

theorem C05_filterload_dec_enc (v : FilterLoad) (h : filterLoadC.wf v) : filterLoadC.dec (filterLoadC.enc v) = .ok (v, []) :=
  (filterLoadC_lawful.toEnd).dec_enc v h

theorem C05_filterload_size_exact (v : FilterLoad) (h : filterLoadC.wf v) : (filterLoadC.enc v).length = filterLoadC.size v :=
  (filterLoadC_lawful.toEnd).size_eq v h

theorem C05_filterload_enc_eq_spec (v : FilterLoad) (_h : filterLoadC.wf v) : filterLoadC.enc v = WireSpec.filterLoad v :=
  filterLoad_enc v

theorem C05_filterload_fixpoint (b : Bytes) (v : FilterLoad) (r : Bytes) (h : filterLoadC.dec b = .ok (v, r)) :
    filterLoadC.wf v ∧ filterLoadC.dec (filterLoadC.enc v) = .ok (v, []) ∧
    (∀ v' r', filterLoadC.dec (filterLoadC.enc v) = .ok (v', r') → filterLoadC.enc v' = filterLoadC.enc v) ∧ ∃ p, b = p ++ r :=
  filterLoadC_lawful.toEnd.roundtrip h

theorem C05_filteradd_dec_enc (v : FilterAdd) (h : filterAddC.wf v) : filterAddC.dec (filterAddC.enc v) = .ok (v, []) :=
  (filterAddC_lawful.toEnd).dec_enc v h

theorem C05_filteradd_size_exact (v : FilterAdd) (h : filterAddC.wf v) : (filterAddC.enc v).length = filterAddC.size v :=
  (filterAddC_lawful.toEnd).size_eq v h

theorem C05_filteradd_enc_eq_spec (v : FilterAdd) (_h : filterAddC.wf v) : filterAddC.enc v = WireSpec.filterAdd v :=
  filterAdd_enc v

theorem C05_filteradd_fixpoint (b : Bytes) (v : FilterAdd) (r : Bytes) (h : filterAddC.dec b = .ok (v, r)) :
    filterAddC.wf v ∧ filterAddC.dec (filterAddC.enc v) = .ok (v, []) ∧
    (∀ v' r', filterAddC.dec (filterAddC.enc v) = .ok (v', r') → filterAddC.enc v' = filterAddC.enc v) ∧ ∃ p, b = p ++ r :=
  filterAddC_lawful.toEnd.roundtrip h

theorem C05_reject_dec_enc (v : Reject) (h : rejectC.wf v) : rejectC.dec (rejectC.enc v) = .ok (v, []) :=
  (rejectC_lawful.toEnd).dec_enc v h

theorem C05_reject_size_exact (v : Reject) (h : rejectC.wf v) : (rejectC.enc v).length = rejectC.size v :=
  (rejectC_lawful.toEnd).size_eq v h

theorem C05_reject_enc_eq_spec (v : Reject) (_h : rejectC.wf v) : rejectC.enc v = WireSpec.reject v :=
  reject_enc v

theorem C05_reject_fixpoint (b : Bytes) (v : Reject) (r : Bytes) (h : rejectC.dec b = .ok (v, r)) :
    rejectC.wf v ∧ rejectC.dec (rejectC.enc v) = .ok (v, []) ∧
    (∀ v' r', rejectC.dec (rejectC.enc v) = .ok (v', r') → rejectC.enc v' = rejectC.enc v) ∧ ∃ p, b = p ++ r :=
  rejectC_lawful.toEnd.roundtrip h

theorem C05_protoconf_dec_enc (v : Protoconf) (h : protoconfC.wf v) : protoconfC.dec (protoconfC.enc v) = .ok (v, []) :=
  (protoconfC_lawful.toEnd).dec_enc v h

theorem C05_protoconf_size_exact (v : Protoconf) (h : protoconfC.wf v) : (protoconfC.enc v).length = protoconfC.size v :=
  (protoconfC_lawful.toEnd).size_eq v h

theorem C05_protoconf_enc_eq_spec (v : Protoconf) (h : protoconfC.wf v) : protoconfC.enc v = WireSpec.protoconf v :=
  protoconf_enc v h

theorem C05_protoconf_fixpoint (b : Bytes) (v : Protoconf) (r : Bytes) (h : protoconfC.dec b = .ok (v, r)) :
    protoconfC.wf v ∧ protoconfC.dec (protoconfC.enc v) = .ok (v, []) ∧
    (∀ v' r', protoconfC.dec (protoconfC.enc v) = .ok (v', r') → protoconfC.enc v' = protoconfC.enc v) ∧ ∃ p, b = p ++ r :=
  protoconfC_lawful.toEnd.roundtrip h

theorem C05_authch_dec_enc (v : Authch) (h : authchC.wf v) : authchC.dec (authchC.enc v) = .ok (v, []) :=
  (authchC_lawful.toEnd).dec_enc v h

theorem C05_authch_size_exact (v : Authch) (h : authchC.wf v) : (authchC.enc v).length = authchC.size v :=
  (authchC_lawful.toEnd).size_eq v h

theorem C05_authch_enc_eq_spec (v : Authch) (h : authchC.wf v) : authchC.enc v = WireSpec.authch v :=
  authch_enc v h

theorem C05_authch_fixpoint (b : Bytes) (v : Authch) (r : Bytes) (h : authchC.dec b = .ok (v, r)) :
    authchC.wf v ∧ authchC.dec (authchC.enc v) = .ok (v, []) ∧
    (∀ v' r', authchC.dec (authchC.enc v) = .ok (v', r') → authchC.enc v' = authchC.enc v) ∧ ∃ p, b = p ++ r :=
  authchC_lawful.toEnd.roundtrip h

theorem C05_createstrm_dec_enc (v : Createstrm) (h : createstrmC.wf v) : createstrmC.dec (createstrmC.enc v) = .ok (v, []) :=
  (createstrmC_lawfulEnd).dec_enc v h

theorem C05_createstrm_size_exact (v : Createstrm) (h : createstrmC.wf v) : (createstrmC.enc v).length = createstrmC.size v :=
  (createstrmC_lawfulEnd).size_eq v h

theorem C05_createstrm_enc_eq_spec (v : Createstrm) (_h : createstrmC.wf v) : createstrmC.enc v = WireSpec.createstrm v :=
  createstrm_enc v

theorem C05_createstrm_fixpoint (b : Bytes) (v : Createstrm) (r : Bytes) (h : createstrmC.dec b = .ok (v, r)) :
    createstrmC.wf v ∧ createstrmC.dec (createstrmC.enc v) = .ok (v, []) ∧
    (∀ v' r', createstrmC.dec (createstrmC.enc v) = .ok (v', r') → createstrmC.enc v' = createstrmC.enc v) ∧ ∃ p, b = p ++ r :=
  createstrmC_lawfulEnd.roundtrip h

theorem C05_streamack_dec_enc (v : Streamack) (h : streamackC.wf v) : streamackC.dec (streamackC.enc v) = .ok (v, []) :=
  (streamackC_lawful.toEnd).dec_enc v h

theorem C05_streamack_size_exact (v : Streamack) (h : streamackC.wf v) : (streamackC.enc v).length = streamackC.size v :=
  (streamackC_lawful.toEnd).size_eq v h

theorem C05_streamack_enc_eq_spec (v : Streamack) (_h : streamackC.wf v) : streamackC.enc v = WireSpec.streamack v :=
  streamack_enc v

theorem C05_streamack_fixpoint (b : Bytes) (v : Streamack) (r : Bytes) (h : streamackC.dec b = .ok (v, r)) :
    streamackC.wf v ∧ streamackC.dec (streamackC.enc v) = .ok (v, []) ∧
    (∀ v' r', streamackC.dec (streamackC.enc v) = .ok (v', r') → streamackC.enc v' = streamackC.enc v) ∧ ∃ p, b = p ++ r :=
  streamackC_lawful.toEnd.roundtrip h

theorem C05_cmpctblock_dec_enc (v : Cmpctblock) (h : cmpctblockC.wf v) : cmpctblockC.dec (cmpctblockC.enc v) = .ok (v, []) :=
  (cmpctblockC_lawful.toEnd).dec_enc v h

theorem C05_cmpctblock_size_exact (v : Cmpctblock) (h : cmpctblockC.wf v) : (cmpctblockC.enc v).length = cmpctblockC.size v :=
  (cmpctblockC_lawful.toEnd).size_eq v h

theorem C05_cmpctblock_enc_eq_spec (v : Cmpctblock) (h : cmpctblockC.wf v) : cmpctblockC.enc v = WireSpec.cmpctblock v :=
  cmpctblock_enc v h

theorem C05_cmpctblock_fixpoint (b : Bytes) (v : Cmpctblock) (r : Bytes) (h : cmpctblockC.dec b = .ok (v, r)) :
    cmpctblockC.wf v ∧ cmpctblockC.dec (cmpctblockC.enc v) = .ok (v, []) ∧
    (∀ v' r', cmpctblockC.dec (cmpctblockC.enc v) = .ok (v', r') → cmpctblockC.enc v' = cmpctblockC.enc v) ∧ ∃ p, b = p ++ r :=
  cmpctblockC_lawful.toEnd.roundtrip h

theorem C05_getblocktxn_dec_enc (v : Getblocktxn) (h : getblocktxnC.wf v) : getblocktxnC.dec (getblocktxnC.enc v) = .ok (v, []) :=
  (getblocktxnC_lawful.toEnd).dec_enc v h

theorem C05_getblocktxn_size_exact (v : Getblocktxn) (h : getblocktxnC.wf v) : (getblocktxnC.enc v).length = getblocktxnC.size v :=
  (getblocktxnC_lawful.toEnd).size_eq v h

theorem C05_getblocktxn_enc_eq_spec (v : Getblocktxn) (_h : getblocktxnC.wf v) : getblocktxnC.enc v = WireSpec.getblocktxn v :=
  getblocktxn_enc v

theorem C05_getblocktxn_fixpoint (b : Bytes) (v : Getblocktxn) (r : Bytes) (h : getblocktxnC.dec b = .ok (v, r)) :
    getblocktxnC.wf v ∧ getblocktxnC.dec (getblocktxnC.enc v) = .ok (v, []) ∧
    (∀ v' r', getblocktxnC.dec (getblocktxnC.enc v) = .ok (v', r') → getblocktxnC.enc v' = getblocktxnC.enc v) ∧ ∃ p, b = p ++ r :=
  getblocktxnC_lawful.toEnd.roundtrip h

theorem C05_blocktxn_dec_enc (v : Blocktxn) (h : blocktxnC.wf v) : blocktxnC.dec (blocktxnC.enc v) = .ok (v, []) :=
  (blocktxnC_lawful.toEnd).dec_enc v h

theorem C05_blocktxn_size_exact (v : Blocktxn) (h : blocktxnC.wf v) : (blocktxnC.enc v).length = blocktxnC.size v :=
  (blocktxnC_lawful.toEnd).size_eq v h

theorem C05_blocktxn_enc_eq_spec (v : Blocktxn) (h : blocktxnC.wf v) : blocktxnC.enc v = WireSpec.blocktxn v :=
  blocktxn_enc v h

theorem C05_blocktxn_fixpoint (b : Bytes) (v : Blocktxn) (r : Bytes) (h : blocktxnC.dec b = .ok (v, r)) :
    blocktxnC.wf v ∧ blocktxnC.dec (blocktxnC.enc v) = .ok (v, []) ∧
    (∀ v' r', blocktxnC.dec (blocktxnC.enc v) = .ok (v', r') → blocktxnC.enc v' = blocktxnC.enc v) ∧ ∃ p, b = p ++ r :=
  blocktxnC_lawful.toEnd.roundtrip h

theorem C05_addrv2_dec_enc (v : AddrV2) (h : addrV2C.wf v) : addrV2C.dec (addrV2C.enc v) = .ok (v, []) :=
  (addrV2C_lawful.toEnd).dec_enc v h

theorem C05_addrv2_size_exact (v : AddrV2) (h : addrV2C.wf v) : (addrV2C.enc v).length = addrV2C.size v :=
  (addrV2C_lawful.toEnd).size_eq v h

theorem C05_addrv2_enc_eq_spec (v : AddrV2) (h : addrV2C.wf v) : addrV2C.enc v = WireSpec.addrV2 v :=
  addrV2_enc v h

theorem C05_addrv2_fixpoint (b : Bytes) (v : AddrV2) (r : Bytes) (h : addrV2C.dec b = .ok (v, r)) :
    addrV2C.wf v ∧ addrV2C.dec (addrV2C.enc v) = .ok (v, []) ∧
    (∀ v' r', addrV2C.dec (addrV2C.enc v) = .ok (v', r') → addrV2C.enc v' = addrV2C.enc v) ∧ ∃ p, b = p ++ r :=
  addrV2C_lawful.toEnd.roundtrip h

/-- `var_int::size` is 1, 3, 5 or 9 with the class boundaries at 252/253, 65535/65536, 2³²−1/2³² -/
theorem C05_var_int_size_classes (n : Nat) :
    varint.size n = if n ≤ 252 then 1 else if n ≤ 65535 then 3 else if n ≤ 4294967295 then 5 else 9 :=
  varint_size_classes n

/-- a non-minimal encoding decodes to the same number as the minimal one and re-encodes minimally -/
example : varint.dec [0xfd, 0x05, 0x00] = .ok (5, []) ∧ varint.enc 5 = [0x05] := by decide
example : varint.dec [0xff, 0xfc, 0, 0, 0, 0, 0, 0, 0, 0x77] = .ok (252, [0x77]) := by decide

theorem C05_var_int_inrange_iff (n : Nat) : varint.wf n ↔ n < 2 ^ 64 := Iff.rfl

theorem C05_outpoint_inrange_iff (o : OutPoint) :
    outPointC.wf o ↔ o.hash.length = 32 ∧ o.index < 2 ^ 32 := Iff.rfl

theorem C05_txin_inrange_iff (t : TxIn) :
    txInC.wf t ↔ (t.prevOutput.hash.length = 32 ∧ t.prevOutput.index < 2 ^ 32) ∧
      (t.unlockScript.length < 2 ^ 64 ∧ t.unlockScript.length = t.unlockScript.length) ∧
      t.sequence < 2 ^ 32 := Iff.rfl

theorem C05_txout_inrange_iff (t : TxOut) :
    txOutC.wf t ↔ (-(2 ^ 63 : Int) ≤ t.satoshis ∧ t.satoshis < 2 ^ 63) ∧
      (t.lockScript.length < 2 ^ 64 ∧ t.lockScript.length = t.lockScript.length) := by
  -- the signed codec states its range on the doubled value: `-(256^8) ≤ 2·x < 256^8`
  refine and_congr ?_ Iff.rfl
  show -((256 ^ 8 : Nat) : Int) ≤ 2 * t.satoshis ∧ 2 * t.satoshis < ((256 ^ 8 : Nat) : Int) ↔ _
  omega

theorem C05_tx_inrange_iff (t : Tx) :
    txC.wf t ↔ t.version < 2 ^ 32 ∧
      (t.inputs.length < 2 ^ 64 ∧ t.inputs.length = t.inputs.length ∧ ∀ i ∈ t.inputs, txInC.wf i) ∧
      (t.outputs.length < 2 ^ 64 ∧ t.outputs.length = t.outputs.length ∧ ∀ o ∈ t.outputs, txOutC.wf o) ∧
      t.lockTime < 2 ^ 32 := Iff.rfl

theorem C05_blockheader_inrange_iff (h : BlockHeader) :
    blockHeaderC.wf h ↔ h.version < 2 ^ 32 ∧ h.prevHash.length = 32 ∧ h.merkleRoot.length = 32 ∧
      h.timestamp < 2 ^ 32 ∧ h.bits < 2 ^ 32 ∧ h.nonce < 2 ^ 32 := Iff.rfl

/-- Authch is in range only when its explicit length field equals the message length -/
theorem C05_authch_inrange_length (a : Authch) (h : authchC.wf a) : a.message.length = a.messageLength :=
  h.2.2

/-- Protoconf is in range only when the stream policies are present exactly for `version > 1` -/
theorem C05_protoconf_inrange_policies (p : Protoconf) (h : protoconfC.wf p) :
    (p.version > 1 ↔ p.streamPolicies.isSome) := by
  obtain ⟨_, _, hp⟩ := h
  rw [← optionC_wf hp, decide_eq_true_iff]

/-- Reject carries 32 data bytes exactly when the rejected message is "block" or "tx" -/
theorem C05_reject_inrange_data (r : Reject) (h : rejectC.wf r) :
    r.data.length = if isBlockOrTx r.message then 32 else 0 := h.2.2.2

/-- the `validate()` that `Message::read` runs on a decoded `cmpctblock` never panics: amounts and
    the running total are checked inside the loop, so the `i64` sum cannot overflow -/
theorem C05_cmpctblock_validate_no_panic (c : Cmpctblock) (s : String) :
    cmpctblockValidate c ≠ .panic s :=
  allValidate_total prefilledValidate_total _ s

/-! ### satisfiability of the hypotheses -/

def sampleTx : Tx :=
  { version := 2,
    inputs := [{ prevOutput := { hash := List.replicate 32 7, index := 4294967295 },
                 unlockScript := [0x51, 0x52], sequence := 0 }],
    outputs := [{ satoshis := 5000000000, lockScript := [0x6a] }, { satoshis := -1, lockScript := [] }],
    lockTime := 0 }

example : txC.wf sampleTx := by decide
example : txC.dec (txC.enc sampleTx) = .ok (sampleTx, []) := C05_tx_dec_enc sampleTx (by decide)
example : varint.wf 65536 := by decide
example : pingC.wf ⟨18446744073709551615⟩ := by decide
example : authchC.wf ⟨1, 3, [1, 2, 3]⟩ := by decide
example : ¬ authchC.wf ⟨1, 5, [1, 2, 3]⟩ := by decide
example : protoconfC.wf ⟨2, 2000000, some [0x44]⟩ := by decide
example : ¬ protoconfC.wf ⟨1, 2000000, some [0x44]⟩ := by decide
example : streamackC.wf ⟨[1, 2, 3], 1⟩ := by decide
example : getblocktxnC.wf ⟨List.replicate 32 0, [0, 253, 65536]⟩ := by decide

/-- **decode ∘ encode** for messages: a written in-range message of any kind, under any network
    magic, followed by anything, is read back as the same message and the reader stops exactly at
    the end of the payload.  `H` is any function with 32-byte output (SHA-256 in the code). -/
theorem C05_message_dec_enc (H : Bytes → Bytes) (hH : ∀ x, (H x).length = 32) (magic : Bytes)
    (hm : magic.length = 4) (m : Msg) (hr : Msg.InRange m) (bytes : Bytes)
    (hw : writeMessage H magic m = some bytes) (r : Bytes) :
    readMessage H magic (bytes ++ r) = .ok (m, r) :=
  readMessage_writeMessage H hH magic hm m hr bytes hw r

/-- every in-range message can be written (`write` refuses only `Other`/`Partial`) -/
theorem C05_message_write_total (H : Bytes → Bytes) (magic : Bytes) (m : Msg) (hr : Msg.InRange m) :
    ∃ bytes, writeMessage H magic m = some bytes := by
  unfold Msg.InRange at hr
  unfold writeMessage
  cases he : entryOf m with
  | none => simp [he] at hr
  | some e =>
    dsimp only
    cases e.body <;> exact ⟨_, rfl⟩

/-- **layout**: the written bytes are the reference framing of the reference payload. -/
theorem C05_message_enc_eq_spec (H : Bytes → Bytes) (hH0 : (H (H [])).take 4 = NO_CHECKSUM) (magic : Bytes)
    (m : Msg) (hr : Msg.InRange m) : writeMessage H magic m = WireSpec.message H magic m :=
  writeMessage_eq_spec H hH0 magic m hr

/-- the 12 command bytes of every protocol message are its NUL-padded name -/
theorem C05_command_is_padded_name (m : Msg) (name : String) (pl : Bytes)
    (h : WireSpec.commandAndPayload m = some (name, pl)) : (WireSpec.commandBytes name).length = 12 := by
  cases he : entryOf m with
  | none => cases m <;> cases he; cases h
  | some e =>
    rw [← entry_cmd he h]
    exact table_cmds_len e (entryOf_mem m e he)

/-- **header consistency**: a written message is `magic ‖ command ‖ length ‖ checksum ‖ payload`
    where the command is the 12-byte NUL-padded name, the length field is the number of payload
    bytes written, and the checksum is the first four bytes of `H (H payload)` — for any `H`
    (for payload-less commands the constant `NO_CHECKSUM` must be that value for the empty string,
    hypothesis `hH0`, checked against SHA-256 by the differential run). -/
theorem C05_header_consistent (H : Bytes → Bytes) (hH0 : (H (H [])).take 4 = NO_CHECKSUM) (magic : Bytes)
    (m : Msg) (hr : Msg.InRange m) (bytes : Bytes) (hw : writeMessage H magic m = some bytes) :
    ∃ name payload, WireSpec.commandAndPayload m = some (name, payload) ∧
      (WireSpec.commandBytes name).length = 12 ∧
      bytes = magic ++ WireSpec.commandBytes name ++ WireSpec.le32 payload.length ++
        (H (H payload)).take 4 ++ payload := by
  rw [writeMessage_eq_spec H hH0 magic m hr] at hw
  unfold WireSpec.message at hw
  cases hc : WireSpec.commandAndPayload m with
  | none => simp [hc] at hw
  | some p =>
    obtain ⟨name, pl⟩ := p
    simp only [hc, Option.map_some, Option.some.injEq] at hw
    exact ⟨name, pl, rfl, C05_command_is_padded_name m name pl hc, hw.symm⟩

/-- the length field is a faithful `u32`: it decodes to the payload length -/
theorem C05_header_length_field (n : Nat) (h : n < 2 ^ 32) (r : Bytes) :
    u32.dec (WireSpec.le32 n ++ r) = .ok (n, r) := by
  rw [← u32_enc]
  exact u32_lawful.dec_enc n r h

/-- **fixpoint** for messages: whatever `Message::read` accepts (any bytes, canonical or not, any
    kind but `Other`) is a message of the arm that decoded it and in range for it; if its
    re-encoding respects the size limit `read` enforces, writing it and reading again returns the
    same message, and writing that again returns the same bytes. -/
theorem C05_message_fixpoint (H : Bytes → Bytes) (hH : ∀ x, (H x).length = 32) (magic b : Bytes)
    (hm : magic.length = 4) (m : Msg) (r : Bytes) (h : readMessage H magic b = .ok (m, r))
    (hno : ∀ c, m ≠ .other c)
    (hsize : ∀ e c, entryOf m = some e → e.body = some c →
      c.size m < 2 ^ 32 ∧ (e.cmd = eBlock.cmd ∨ c.size m ≤ MAX_PAYLOAD_SIZE)) :
    Msg.InRange m ∧ (∃ p, b = p ++ r) ∧
    ∃ b2, writeMessage H magic m = some b2 ∧ ∀ r', readMessage H magic (b2 ++ r') = .ok (m, r') := by
  obtain ⟨e, he, hwf, hp⟩ := readMessage_ok H magic b m r h hno
  have hr : Msg.InRange m := by
    unfold Msg.InRange
    cases hb : e.body with
    | none => simp only [he, hb]
    | some c =>
      simp only [he, hb]
      exact ⟨hwf c hb, hsize e c he hb⟩
  obtain ⟨b2, hw⟩ := C05_message_write_total H magic m hr
  exact ⟨hr, hp, b2, hw, fun r' => C05_message_dec_enc H hH magic hm m hr b2 hw r'⟩

/-- every network magic is four bytes (the table is regenerated from `Network::magic()`) -/
theorem C05_magics_are_four_bytes :
    ∀ x ∈ Generated.C05_MAGICS, x < 2 ^ 32 ∧ (natToLEn 4 x).reverse.length = 4 := by decide

example : Msg.InRange (.ping ⟨7⟩) := by
  unfold Msg.InRange
  simp only [entryOf, ePing]
  decide

example : Msg.InRange .verack := by
  unfold Msg.InRange
  simp only [entryOf, eVerack]

example : ¬ Msg.InRange (.other []) := by
  unfold Msg.InRange
  simp [entryOf]

end CG.Props.C05
