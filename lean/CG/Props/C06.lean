import CG.Proofs.WireAlloc
/-!
# C06 — decoding hostile bytes never panics, aborts, hangs or over-allocates

Subject: `CG.Model.WireAlloc` — the C05 wire decoders instrumented with an allocation log and an
iteration counter, under the allocation policy of the REPAIRED tree (`Policy.capped L`:
`capped_capacity` / `read_bytes` of `util/serdes.rs` with `MAX_PREALLOC_BYTES = L`).  Every theorem
quantifies over ALL byte strings `b` (complete, truncated, random), over every payload decoder
(`Kind`, 32 of them: all of `src/messages/*.rs` plus `var_int`, `MessageHeader`, `BloomFilter`) and,
for `Message::read`, over every hash function `H` and every network magic.

* `C06_decoder_is_C05`      the instrumented decoder returns what the C05 decoder returns
* `C06_no_panic…`           decoding is `ok` or `err`, never `panic`
* `C06_steps_le_input…`     loop iterations ≤ input length + 3 (no hang); `C06_ok_consumes`: one byte per iteration
* `C06_alloc_bounded…`      every allocation request ≤ 16·|input| + C  (C = `bigC L`; + `MAX_PAYLOAD_SIZE`
                            for `Message::read`, `block` messages declaring more than that exempt)
* `C06_validate_total…`     the `validate()` methods never panic
* `C06_tree_…`, `C06_within_rule…`  the constants of the tree under test, and the verdict the driver prints
* `C06_pinned_…`            witnesses: under the pinned policy the same statements are false
-/
namespace CG.Props.C06
open CG CG.Model.Wire CG.Model.WireAlloc

theorem C06_decoder_is_C05 (L : Nat) (k : Kind) (b : Bytes) :
    (k.dec (.capped L) b).out = k.codec.dec b := (Kind.cert k).erase b

theorem C06_no_panic (L : Nat) (k : Kind) (b : Bytes) (s : String) :
    (k.dec (.capped L) b).out ≠ .panic s := (Kind.cert k).nopanic b s

/-- so the C05 decoders themselves never panic, on any input -/
theorem C06_no_panic_C05 (k : Kind) (b : Bytes) (s : String) : k.codec.dec b ≠ .panic s := by
  rw [← C06_decoder_is_C05 0 k b]; exact C06_no_panic 0 k b s

theorem C06_no_panic_message (L : Nat) (H : Bytes → Bytes) (magic b : Bytes) (s : String) :
    (readMessageA (.capped L) H magic b).out ≠ .panic s := (readMessageA_good H magic b).nopanic s

theorem C06_steps_le_input (L : Nat) (k : Kind) (b : Bytes) :
    (k.dec (.capped L) b).steps ≤ b.length + 3 := (Kind.cert k).steps b

/-- on success every iteration has consumed at least one byte of its own -/
theorem C06_ok_consumes (L : Nat) (k : Kind) (b : Bytes) (a : k.Val) (r : Bytes)
    (h : (k.dec (.capped L) b).out = .ok (a, r)) : r.length + (k.dec (.capped L) b).steps ≤ b.length := by
  have := (Kind.cert (L := L) k).consume b a r h; omega

theorem C06_steps_le_input_message (L : Nat) (H : Bytes → Bytes) (magic b : Bytes) :
    (readMessageA (.capped L) H magic b).steps ≤ b.length + 3 := (readMessageA_good H magic b).steps

theorem C06_alloc_bounded (L : Nat) (k : Kind) (b : Bytes) :
    ∀ r ∈ (k.dec (.capped L) b).log, r ≤ 16 * b.length + bigC L := (Kind.cert k).alloc b

/-- `Message::read`: additionally the payload buffer the header check allows.  A `block` message
    declaring more than `MAX_PAYLOAD_SIZE` is exempt from the size cap by design. -/
theorem C06_alloc_bounded_message (L : Nat) (H : Bytes → Bytes) (magic b : Bytes) (h : ¬ OversizeBlock b) :
    ∀ r ∈ (readMessageA (.capped L) H magic b).log, r ≤ 16 * b.length + bigC L + MAX_PAYLOAD_SIZE := by
  have := (readMessageA_good (L := L) H magic b).alloc
  rwa [if_neg h] at this

/-- the regenerated `MAX_PREALLOC_BYTES`: the tree is repaired, with a cap of 1 MiB -/
theorem C06_tree_policy : treePolicy = .capped 1048576 := by decide

/-- the constant of the bound for this tree: the `Inv` vector (50 000 × 36 bytes) dominates the cap -/
theorem C06_tree_constant : bigC 1048576 = 1800512 := by decide

/-- the rule shared with the harness (`RULE_K · len + RULE_C`) is implied by the theorem's bound -/
theorem C06_rule_covers : 16 ≤ RULE_K ∧ bigC 1048576 ≤ RULE_C := by decide

theorem within_rule {x n E : Nat} (h : x ≤ 16 * n + bigC 1048576 + E) : x ≤ RULE_K * n + RULE_C + E := by
  have ⟨h2, h3⟩ := C06_rule_covers
  have h4 : 16 * n ≤ RULE_K * n := Nat.mul_le_mul_right _ h2
  omega

/-- the verdict the driver prints for a payload is always `alloc-ok` -/
theorem C06_within_rule (k : Kind) (b : Bytes) :
    maxLog (k.dec treePolicy b).log ≤ RULE_K * b.length + RULE_C := by
  rw [C06_tree_policy]
  exact maxLog_le fun x hx => within_rule (E := 0) (C06_alloc_bounded 1048576 k b x hx)

theorem C06_within_rule_message (H : Bytes → Bytes) (magic b : Bytes) (h : ¬ OversizeBlock b) :
    maxLog (readMessageA treePolicy H magic b).log ≤ RULE_K * b.length + RULE_C + MAX_PAYLOAD_SIZE := by
  rw [C06_tree_policy]
  exact maxLog_le fun x hx => within_rule (C06_alloc_bounded_message 1048576 H magic b h x hx)

/-- every modelled argument-free validator, on every value of its type -/
theorem C06_validate_total (k : Kind) (v : k.Val → Outcome Unit) (hv : k.validate = some v) (a : k.Val)
    (s : String) : v a ≠ .panic s := Kind.validate_total k v hv a s

/-- the eight `validate()` calls of `Message::read_partial`, by name -/
theorem C06_validate_total_read_partial (s : String) :
    (∀ v, filterAddValidate v ≠ .panic s) ∧ (∀ v, filterLoadValidate v ≠ .panic s) ∧
    (∀ v, versionValidate v ≠ .panic s) ∧ (∀ v, protoconfValidate v ≠ .panic s) ∧
    (∀ v, authchValidate v ≠ .panic s) ∧ (∀ v, createstrmValidate v ≠ .panic s) ∧
    (∀ v, streamackValidate v ≠ .panic s) ∧ (∀ v, cmpctblockValidateNow v ≠ .panic s) :=
  ⟨fun v => filterAddValidate_total v s, fun v => filterLoadValidate_total v s,
   fun v => versionValidate_total v s, fun v => protoconfValidate_total v s,
   fun v => authchValidate_total v s, fun v => createstrmValidate_total v s,
   fun v => streamackValidate_total v s, fun v => cmpctblockValidateNow_total v s⟩

/-- the amount loop of `PrefilledTransaction::validate` / `Blocktxn::validate` cannot overflow `i64`:
    the running total never exceeds `MAX_SATOSHIS` -/
theorem C06_amount_sum_no_overflow (outs : List TxOut) (s : String) : sumOutputsNow outs 0 ≠ .panic s :=
  sumOutputsNow_total outs 0 (by decide) s

/-! ## the pinned tree violates the property (witnesses)

`Tx::read` on ten bytes: version 1, input count `0xfe ffffff0f` = 2^28 − 1. -/

def hostileTx : Bytes := [1, 0, 0, 0, 0xfe, 0xff, 0xff, 0xff, 0x0f, 0]
/-- the same with a count of 2^64 − 1 -/
def hostileTxMax : Bytes := [1, 0, 0, 0, 0xff, 0xff, 0xff, 0xff, 0xff, 0xff, 0xff, 0xff, 0xff, 0]

/-- pinned: `Vec::with_capacity(2^28 − 1)` of 64-byte inputs is a 17 GB request for a 10-byte payload -/
theorem C06_pinned_tx_over_allocates :
    (txA .pinned hostileTx).log = [17179869120] ∧ ¬ (17179869120 ≤ 16 * hostileTx.length + bigC 1048576) := by
  decide

/-- pinned: a count of 2^64 − 1 is the `capacity overflow` panic -/
theorem C06_pinned_tx_panics : (txA .pinned hostileTxMax).out = .panic "capacity overflow" := by decide

/-- pinned: `vec![0; n]` with a 4 GiB length in a 9-byte `filteradd` payload -/
theorem C06_pinned_filteradd_over_allocates :
    (filterAddA .pinned [0xff, 0, 0, 0, 0, 1, 0, 0, 0]).log = [4294967296] := by decide

/-- repaired: the same inputs are an I/O error, with at most the cap requested -/
theorem C06_repaired_tx_witness :
    (txA (.capped 1048576) hostileTx).out = .err "IoError" ∧ (txA (.capped 1048576) hostileTx).log = [1048576] ∧
    (txA (.capped 1048576) hostileTxMax).out = .err "IoError" := by decide

def AllocBounded (P : Policy) : Prop :=
  ∀ (k : Kind) (b : Bytes), ∀ r ∈ (k.dec P b).log, r ≤ 16 * b.length + bigC 1048576
def NoPanic (P : Policy) : Prop := ∀ (k : Kind) (b : Bytes) (s : String), (k.dec P b).out ≠ .panic s

theorem C06_repaired_holds : AllocBounded (.capped 1048576) ∧ NoPanic (.capped 1048576) :=
  ⟨C06_alloc_bounded 1048576, C06_no_panic 1048576⟩

theorem C06_pinned_fails : ¬ AllocBounded .pinned ∧ ¬ NoPanic .pinned := by
  refine ⟨fun h => ?_, fun h => ?_⟩
  · have hmem : 17179869120 ∈ (Kind.dec .pinned .tx hostileTx).log := by
      rw [show Kind.dec .pinned .tx = txA .pinned from rfl, C06_pinned_tx_over_allocates.1]
      simp
    exact C06_pinned_tx_over_allocates.2 (h .tx hostileTx 17179869120 hmem)
  · exact h .tx hostileTxMax "capacity overflow" C06_pinned_tx_panics

/-- a well-formed `tx` decodes, its log is not empty, its loops ran -/
example :
    let b : Bytes := [1, 0, 0, 0, 1] ++ List.replicate 36 7 ++ [2, 0xaa, 0xbb, 9, 0, 0, 0, 1, 5, 0, 0, 0, 0, 0, 0, 0, 0, 0, 0, 0, 0]
    (txA (.capped 1048576) b).out.isOk = true ∧ (txA (.capped 1048576) b).log = [64, 2, 32, 0] ∧
      (txA (.capped 1048576) b).steps = 2 := by decide

/-- an ordinary message is not an oversize block; an oversize block exists -/
example : ¬ OversizeBlock ([0xe3, 0xe1, 0xf3, 0xe8] ++ [118, 101, 114, 97, 99, 107, 0, 0, 0, 0, 0, 0] ++ [0, 0, 0, 0, 0x5d, 0xf6, 0xe0, 0xe2]) := by
  decide
example : OversizeBlock ([0, 0, 0, 0] ++ ofNats Generated.C05_CMD_BLOCK ++ [1, 0, 0, 2, 0, 0, 0, 0]) := by decide

end CG.Props.C06
