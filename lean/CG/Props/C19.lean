import CG.Proofs.Header
/-!
# C19 — Block header hashing, proof-of-work and timestamp validation

Model: `CG.Model.Header` (mirrors `block_header.rs`, `hash256.rs`);
specification: `CG.Spec.Pow`.  The double hash is a parameter.
-/
namespace CG.Props.C19
open CG CG.Model.Header CG.Proofs.Header

/-- The serialisation that is hashed has 80 bytes, for every field value. -/
theorem C19_serialisation_80 (h : BlockHeader) (hp : h.prevHash.length = 32)
    (hm : h.merkleRoot.length = 32) : (serialize h).length = 80 := by
  simp [serialize, hp, hm]

/-- A header's hash is the double hash of that serialisation (how the model's `hash` is defined). -/
theorem C19_hash_is_double_hash_of_serialisation (H : Bytes → Bytes) (h : BlockHeader) :
    hash H h = H (serialize h) := rfl

/-- the serialisation is injective field by field: the hash commits to every field -/
theorem C19_serialisation_injective (h1 h2 : BlockHeader)
    (hp : h1.prevHash.length = h2.prevHash.length)
    (hm : h1.merkleRoot.length = h2.merkleRoot.length)
    (h : serialize h1 = serialize h2) :
    natToLEn 4 h1.version = natToLEn 4 h2.version ∧ h1.prevHash = h2.prevHash ∧
    h1.merkleRoot = h2.merkleRoot ∧ natToLEn 4 h1.timestamp = natToLEn 4 h2.timestamp ∧
    natToLEn 4 h1.bits = natToLEn 4 h2.bits ∧ natToLEn 4 h1.nonce = natToLEn 4 h2.nonce := by
  unfold serialize at h
  obtain ⟨h, e6⟩ := List.append_inj' h (by simp)
  obtain ⟨h, e5⟩ := List.append_inj' h (by simp)
  obtain ⟨h, e4⟩ := List.append_inj' h (by simp)
  obtain ⟨h, e3⟩ := List.append_inj' h hm
  obtain ⟨e1, e2⟩ := List.append_inj' h hp
  exact ⟨e1, e2, e3, e4, e5, e6⟩

/-- Ordering of hashes is numeric: `Hash256::cmp` = comparison of the little-endian integers. -/
theorem C19_ord_numeric (a b : Bytes) (h : a.length = b.length) :
    hashCmp a b = compare (leToNat a) (leToNat b) :=
  cmpFromTop_reverse a b h

/-- `difficulty_target` and the specification's target split on the same exponent range: inside it the
    array holds `mantissa · 256^(exp-3)`, outside it both refuse -/
theorem difficultyTarget_cases (bits : Nat) :
    (∃ d, difficultyTarget bits = .ok d ∧ Spec.Pow.target bits = some (leToNat d) ∧ d.length = 32) ∨
    (difficultyTarget bits = .err "BadArgument" ∧ Spec.Pow.target bits = none) := by
  unfold difficultyTarget Spec.Pow.target
  by_cases he : 3 ≤ bits / 2 ^ 24 ∧ bits / 2 ^ 24 ≤ 32
  · refine Or.inl ⟨_, if_pos he, ?_, by simp only [List.length_set, List.length_replicate]⟩
    rw [if_pos he, target_value 32 (bits / 2 ^ 24) he.1 he.2, mantissa_bytes]
  · exact Or.inr ⟨if_neg he, if_neg he⟩

/-- For exponents 3..32 the target's integer value is `mantissa · 256^(exp-3)`; it has 32 bytes. -/
theorem C19_target_value (bits : Nat) (_hb : bits < 2 ^ 32) (d : Bytes)
    (h : difficultyTarget bits = .ok d) :
    Spec.Pow.target bits = some (leToNat d) ∧ d.length = 32 := by
  rcases difficultyTarget_cases bits with ⟨d', hd, ht⟩ | ⟨he, _⟩
  · cases hd.symm.trans h
    exact ht
  · cases he.symm.trans h

/-- Every exponent outside 3..32 is an error — never a panic — and inside it is never an error. -/
theorem C19_target_total (bits : Nat) :
    (Spec.Pow.target bits = none → difficultyTarget bits = .err "BadArgument") ∧
    (∀ s, difficultyTarget bits ≠ .panic s) ∧
    (Spec.Pow.target bits ≠ none → ∃ d, difficultyTarget bits = .ok d) := by
  rcases difficultyTarget_cases bits with ⟨d, hd, ht, _⟩ | ⟨he, ht⟩
  · rw [hd, ht]
    exact ⟨nofun, nofun, fun _ => ⟨d, rfl⟩⟩
  · rw [he, ht]
    exact ⟨fun _ => rfl, nofun, fun h => absurd rfl h⟩

theorem window_eq_spec (prev : List Nat) :
    window prev = Spec.Pow.isort (Spec.Pow.lastUpTo 11 prev) := by
  unfold window Spec.Pow.lastUpTo
  rw [mergeSort_eq_isort]
  congr 2
  omega

theorem window_length (prev : List Nat) : (window prev).length = min prev.length 11 := by
  rw [window, List.length_mergeSort, List.length_drop]
  omega

theorem median_eq_window (prev : List Nat) :
    Spec.Pow.median prev = (window prev)[(window prev).length / 2]? := by
  rw [window_eq_spec]
  rfl

/-- **validate = specification**: `validate` answers as `Spec.Pow.validate` does; every refusal is an
    error of the class the specification names; no input panics. -/
theorem C19_validate_eq_spec (ts bits : Nat) (hash : Bytes) (prev : List Nat)
    (hb : bits < 2 ^ 32) (hh : hash.length = 32) :
    validate ts bits hash prev =
      match Spec.Pow.validate ts bits hash prev with
      | .ok => .ok ()
      | .badTimestamp => .err "BadData"
      | .badBits => .err "BadArgument"
      | .badPow => .err "BadData" := by
  have hpow : (match difficultyTarget bits with
      | .ok target => if hashCmp hash target = .gt then Outcome.err "BadData" else .ok ()
      | .err e => .err e
      | .panic s => .panic s) =
      (match Spec.Pow.validate.pow bits hash with
      | .ok => Outcome.ok ()
      | .badTimestamp => .err "BadData"
      | .badBits => .err "BadArgument"
      | .badPow => .err "BadData") := by
    rcases difficultyTarget_cases bits with ⟨d, hd, ht, hl⟩ | ⟨hd, ht⟩
    · rw [hd, Spec.Pow.validate.pow, ht]
      dsimp only
      rw [C19_ord_numeric hash d (by omega)]
      by_cases hle : leToNat hash ≤ leToNat d
      · rw [if_neg (by rw [Nat.compare_eq_gt]; omega), if_pos hle]
      · rw [if_pos (by rw [Nat.compare_eq_gt]; omega), if_neg hle]
    · rw [hd, Spec.Pow.validate.pow, ht]
  unfold validate validateWith Spec.Pow.validate
  rw [median_eq_window]
  cases prev with
  | nil =>
    rw [List.getElem?_eq_none (by rw [window_length]; exact Nat.zero_le _)]
    exact hpow
  | cons x xs =>
    have hlt : (window (x :: xs)).length / 2 < (window (x :: xs)).length := by
      rw [window_length, List.length_cons]
      omega
    dsimp only [List.isEmpty_cons]
    rw [List.getElem?_eq_getElem hlt]
    by_cases hts : ts ≤ (window (x :: xs))[(window (x :: xs)).length / 2]
    · simp only [Bool.false_eq_true, if_false, if_true, if_pos hts, if_neg (Nat.not_lt.mpr hts)]
    · simp only [Bool.false_eq_true, if_false, if_true, if_neg hts, if_pos (Nat.not_le.mp hts)]
      exact hpow

/-- **validate iff**: validation succeeds exactly when `int(hash) ≤ target` and (there are no
    predecessors or the timestamp is strictly greater than the median of the last ≤ 11). -/
theorem C19_validate_iff (ts bits : Nat) (hash : Bytes) (prev : List Nat)
    (hb : bits < 2 ^ 32) (hh : hash.length = 32) :
    validate ts bits hash prev = .ok () ↔
      (∃ t, Spec.Pow.target bits = some t ∧ leToNat hash ≤ t) ∧
      (∀ m, Spec.Pow.median prev = some m → ts > m) := by
  rw [C19_validate_eq_spec ts bits hash prev hb hh]
  unfold Spec.Pow.validate Spec.Pow.validate.pow
  cases hm : Spec.Pow.median prev with
  | none =>
    cases ht : Spec.Pow.target bits with
    | none => simp
    | some t => by_cases hle : leToNat hash ≤ t <;> simp [hle]
  | some m =>
    by_cases hgt : ts > m
    · cases ht : Spec.Pow.target bits with
      | none => simp [hgt]
      | some t => by_cases hle : leToNat hash ≤ t <;> simp [hle, hgt]
    · simp [hgt]

/-- **Monotone in the timestamp**: a header accepted with timestamp `ts` is accepted with any later one
    (same bits, hash and predecessors) — the rule has a lower bound (the median) and no upper bound. -/
theorem C19_validate_mono_timestamp (ts ts' bits : Nat) (hash : Bytes) (prev : List Nat)
    (hb : bits < 2 ^ 32) (hh : hash.length = 32) (hle : ts ≤ ts')
    (h : validate ts bits hash prev = .ok ()) : validate ts' bits hash prev = .ok () := by
  rw [C19_validate_iff ts bits hash prev hb hh] at h
  rw [C19_validate_iff ts' bits hash prev hb hh]
  exact ⟨h.1, fun m hm => by have := h.2 m hm; omega⟩

/-- **Monotone in the hash**: with the same bits, timestamp and predecessors, a numerically smaller (or
    equal) 32-byte hash is accepted whenever a larger one is — proof-of-work is "hash ≤ target". -/
theorem C19_validate_mono_hash (ts bits : Nat) (hash hash' : Bytes) (prev : List Nat)
    (hb : bits < 2 ^ 32) (hh : hash.length = 32) (hh' : hash'.length = 32)
    (hle : leToNat hash' ≤ leToNat hash)
    (h : validate ts bits hash prev = .ok ()) : validate ts bits hash' prev = .ok () := by
  rw [C19_validate_iff ts bits hash prev hb hh] at h
  rw [C19_validate_iff ts bits hash' prev hb hh']
  obtain ⟨⟨t, ht, hlt⟩, h2⟩ := h
  exact ⟨⟨t, ht, by omega⟩, h2⟩

/-- validation never panics (any field values, any predecessor list, duplicates allowed) -/
theorem C19_validate_no_panic (ts bits : Nat) (hash : Bytes) (prev : List Nat)
    (hb : bits < 2 ^ 32) (hh : hash.length = 32) (s : String) :
    validate ts bits hash prev ≠ .panic s := by
  rw [C19_validate_eq_spec ts bits hash prev hb hh]
  cases Spec.Pow.validate ts bits hash prev <;> simp

/-- the median is the middle element of a sorted permutation of the window (sorting-algorithm
    independent reading of the specification) -/
theorem C19_median_is_sorted_middle (prev : List Nat) :
    ∃ w : List Nat, w.Perm (Spec.Pow.lastUpTo 11 prev) ∧ w.Pairwise (· ≤ ·) ∧
      Spec.Pow.median prev = w[w.length / 2]? :=
  ⟨_, isort_perm _, isort_sorted _, rfl⟩

/-! Non-vacuity: concrete inputs satisfying the hypotheses, on both sides of each boundary. -/

example : validate 5 0x207fffff (List.replicate 32 0) [1, 9, 4] = .ok () := by
  rw [C19_validate_eq_spec _ _ _ _ (by decide) (by decide)]
  decide

example : validate 4 0x207fffff (List.replicate 32 0) [1, 9, 4] = .err "BadData" := by
  rw [C19_validate_eq_spec _ _ _ _ (by decide) (by decide)]
  decide

example : validate 3 0x207fffff (List.replicate 32 0) [1, 9, 4] = .err "BadData" := by
  rw [C19_validate_eq_spec _ _ _ _ (by decide) (by decide)]
  decide

example : validate 3 0x027fffff (List.replicate 32 0) [] = .err "BadArgument" := by
  rw [C19_validate_eq_spec _ _ _ _ (by decide) (by decide)]
  decide

/-- the comparison of the pinned tree (`timestamp < median` rejects) accepted a timestamp equal to
    the median: the property's "strictly greater" fails there. -/
theorem C19_pinned_comparison_accepts_equal :
    validateWith false 4 0x207fffff (List.replicate 32 0) [1, 9, 4] = .ok () ∧
    Spec.Pow.validate 4 0x207fffff (List.replicate 32 0) [1, 9, 4] = .badTimestamp := by
  constructor
  · simp only [validateWith, window_eq_spec]
    decide
  · decide

end CG.Props.C19
