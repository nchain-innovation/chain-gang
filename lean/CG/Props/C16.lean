import CG.Proofs.ScriptBuild
import CG.Proofs.ScriptBuildMulti
import CG.Proofs.ScriptText
import CG.Generated.Tables
/-!
# C16 — Script construction, templates and text form are mutually consistent

Models: `CG.Model.ScriptBuild` (`append_data`, `append_num`, `p2pkh.rs`),
`CG.Model.ScriptText` (printer `string_representation(false)`, parser `parse_string`), the interpreter
model `CG.Model.Interp`; reference statements: `CG.Spec.ScriptBuild`.  Hash functions and the checker are
parameters.  The name tables of printer and parser are regenerated from the tree (`CG.Generated.Tables`).
-/
namespace CG.Props.C16
open CG CG.Model.ScriptNum CG.Model.Interp CG.Model.ScriptBuild CG.Model.ScriptText
open CG.Proofs.ScriptBuild CG.Proofs.ScriptText

/-- `append_data` uses OP_0 for the empty string, a direct push up to 75 bytes, PUSHDATA1 up to 255,
    PUSHDATA2 up to 65535 and PUSHDATA4 beyond; the length field is the little-endian length. -/
theorem C16_push_shortest_class (s d : Bytes) (h : d.length < 2 ^ 32) :
    (d.length = 0 → appendData s d = s ++ [0]) ∧
    (1 ≤ d.length ∧ d.length ≤ 75 → appendData s d = s ++ UInt8.ofNat d.length :: d ∧ (UInt8.ofNat d.length).toNat = d.length) ∧
    (76 ≤ d.length ∧ d.length ≤ 255 →
      ∃ f, appendData s d = s ++ 76 :: (f ++ d) ∧ f.length = 1 ∧ leToNat f = d.length) ∧
    (256 ≤ d.length ∧ d.length ≤ 65535 →
      ∃ f, appendData s d = s ++ 77 :: (f ++ d) ∧ f.length = 2 ∧ leToNat f = d.length) ∧
    (65536 ≤ d.length →
      ∃ f, appendData s d = s ++ 78 :: (f ++ d) ∧ f.length = 4 ∧ leToNat f = d.length) := by
  have hp : (2 : Nat) ^ 32 = 4294967296 := by decide
  refine ⟨appendData_empty s d, ?_, ?_, ?_, ?_⟩
  · intro ⟨h1, h2⟩
    exact ⟨appendData_direct s d h1 h2, toNat_ofNat_lt (by omega)⟩
  · intro ⟨h1, h2⟩
    exact ⟨_, appendData_pd1 s d h1 h2, by simp, leToNat_natToLEn_of_lt (by omega)⟩
  · intro ⟨h1, h2⟩
    exact ⟨_, appendData_pd2 s d h1 h2, by simp, leToNat_natToLEn_of_lt (by omega)⟩
  · intro h1
    exact ⟨_, appendData_pd4 s d h1, by simp, leToNat_natToLEn_of_lt (by omega)⟩

/-- the built push is the reference shortest push of the wire format, and its overhead is 1/2/3/5 bytes -/
theorem C16_push_eq_spec (s d : Bytes) (h : d.length < 2 ^ 32) :
    appendData s d = s ++ Spec.ScriptBuild.minimalPush d ∧
    (appendData s d).length = s.length + d.length + Spec.ScriptBuild.overhead d.length := by
  have hp : (2 : Nat) ^ 32 = 4294967296 := by decide
  exact ⟨by rw [appendData_prefix, appendData_eq_spec d (by omega)], appendData_length s d⟩

/-- the data a push instruction leaves on the stack (OP_1..OP_16 / OP_1NEGATE are number opcodes, not
    push-opcode classes) -/
def pushed : Item → Option Bytes
  | .op b => if b = 0 then some [] else none
  | .push d => some d
  | .pd1 d => some d
  | .pd2 d => some d
  | .pd4 d => some d
  | .trunc _ => none

/-- no well-formed push instruction for the same data is shorter than the one `append_data` writes -/
theorem C16_push_is_shortest (it : Item) (d : Bytes) (hwf : it.wf = true) (hd : pushed it = some d) :
    (appendData [] d).length ≤ it.bytes.length := by
  rw [appendData_length]
  obtain ⟨_, h5, h1, h2, h3⟩ := overhead_bounds d.length
  cases it with
  | op b =>
    simp only [pushed] at hd
    split at hd
    · cases hd; exact Nat.le_refl 1
    · cases hd
  | push x =>
    cases hd
    simp only [Item.wf, Bool.and_eq_true, decide_eq_true_eq] at hwf
    simp only [Item.bytes, List.length_cons, List.length_nil]
    omega
  | pd1 x =>
    cases hd
    simp only [Item.wf, decide_eq_true_eq] at hwf
    simp only [Item.bytes, List.length_cons, List.length_append, natToLEn_length, List.length_nil]
    omega
  | pd2 x =>
    cases hd
    simp only [Item.wf, decide_eq_true_eq] at hwf
    simp only [Item.bytes, List.length_cons, List.length_append, natToLEn_length, List.length_nil]
    omega
  | pd4 x =>
    cases hd
    simp only [Item.bytes, List.length_cons, List.length_append, natToLEn_length, List.length_nil]
    omega
  | trunc r => cases hwf

/-- A push built for any data shorter than 2^32 bytes evaluates — whatever the checker, the hash functions
    and the flags — to exactly that data on the stack (empty alt stack, no error, no panic). -/
theorem C16_push_evaluates_to_data {σ : Type} (H : Hashes) (C : Checker σ) (c0 : σ) (flags : Nat) (d : Bytes)
    (h : d.length < 2 ^ 32) :
    coreEval H C c0 (appendData [] d) flags none none none none
      = .ok { stack := [d], alt := [], pos := none, chk := c0 } := by
  have hp : (2 : Nat) ^ 32 = 4294967296 := by decide
  exact coreEval_push H C c0 flags d (by omega)

/-- **Any number of pushes, at whatever offsets they land.**  The script built by appending the data of a list one after
    the other evaluates — whatever the checker, hash functions and flags — to exactly those data, the first at the bottom
    (head of the model's stack list = top), with an empty alt stack, no error and no panic.  The one-push theorem above is
    the case of a push at offset 0; here every later push starts at a non-zero offset (each of the four length classes). -/
theorem C16_pushes_evaluate_to_data {σ : Type} (H : Hashes) (C : Checker σ) (c0 : σ) (flags : Nat) (ds : List Bytes)
    (h : ∀ d ∈ ds, d.length < 2 ^ 32) :
    coreEval H C c0 (ds.foldl appendData []) flags none none none none
      = .ok { stack := ds.reverse, alt := [], pos := none, chk := c0 } := by
  have hp : (2 : Nat) ^ 32 = 4294967296 := by decide
  exact coreEval_pushes H C c0 flags ds (fun d hd => by have := h d hd; omega)

/-- A pushed number in the documented range `[-(2^31-1), 2^31-1]` decodes back to that number. -/
theorem C16_push_num {σ : Type} (H : Hashes) (C : Checker σ) (c0 : σ) (flags : Nat) (n : Int)
    (h : -(2 ^ 31 - 1) ≤ n ∧ n ≤ 2 ^ 31 - 1) :
    ∃ s t, appendNum [] n = .ok s ∧
      coreEval H C c0 s flags none none none none = .ok { stack := [t], alt := [], pos := none, chk := c0 } ∧
      decodeNum t = .ok n :=
  push_num H C c0 flags n (by omega)

/-- … and `append_num` is an error outside it (the only such `i32` is `i32::MIN`). -/
theorem C16_push_num_out_of_range (s : Bytes) (n : Int) (h : n < -(2 ^ 31 - 1) ∨ n > 2 ^ 31 - 1) :
    appendNum s n = .err "ScriptError" := by
  unfold appendNum
  rw [encodeNum_out_of_range n (by omega)]

/-- A lock script built for a 20-byte hash is the standard template, is recognised, yields that hash, and
    `check_lock_script_addr` accepts exactly that hash. -/
theorem C16_lock_recognised (h : Bytes) (hl : h.length = 20) :
    createLockScript h = Spec.ScriptBuild.p2pkhLock h ∧
    checkLockScript (createLockScript h) = true ∧
    extractPubkeyhash (createLockScript h) = .ok h ∧
    ∀ h' : Bytes, checkLockScriptAddr h' (createLockScript h) = .ok (decide (h = h')) := by
  obtain ⟨a, b, c⟩ := lock_recognised h hl
  refine ⟨?_, a, b, c⟩
  rw [createLockScript_eq h hl]
  simp [Spec.ScriptBuild.p2pkhLock]

/-- (repaired window) An unlock script built from any signature of 9..73 bytes — the length envelope of a
    DER signature plus the sighash byte — and any 33-byte key is `<sig> <key>`, is recognised, yields that
    key, and `check_unlock_script_addr` accepts exactly that key. -/
theorem C16_unlock_recognised (sig pk : Bytes) (hs : 9 ≤ sig.length ∧ sig.length ≤ 73) (hp : pk.length = 33) :
    createUnlockScript sig pk = Spec.ScriptBuild.p2pkhUnlock sig pk ∧
    checkUnlockScript (createUnlockScript sig pk) = true ∧
    extractPubkey (createUnlockScript sig pk) = .ok pk ∧
    ∀ pk' : Bytes, checkUnlockScriptAddr pk' (createUnlockScript sig pk) = .ok (decide (pk = pk')) := by
  obtain ⟨a, b, c⟩ := unlock_recognised sig pk hs.1 hs.2 hp
  refine ⟨?_, a, b, c⟩
  unfold createUnlockScript Spec.ScriptBuild.p2pkhUnlock
  rw [appendData_prefix, appendData_eq_spec sig (by omega), appendData_eq_spec pk (by omega)]

/-- the window the current tree accepts, probed by the harness on every run, is the DER envelope 9..73 -/
theorem C16_unlock_window_table : CG.Generated.C16_UNLOCK_WINDOW = (List.range 74).drop 9 := by decide

/-- witness of the defect repaired by `proposed_fixes/C16-unlock-script-window.patch`: with the pinned
    lower bound 71 every library-built unlock script whose signature has 70 bytes or fewer is rejected -/
theorem C16_unlock_pinned_rejects_short (sig pk : Bytes) (h : sig.length ≤ 70) :
    checkUnlockScriptPinned (createUnlockScript sig pk) = false ∧
    extractPubkeyW 71 (createUnlockScript sig pk) = .err "BadData" :=
  unlock_pinned_rejects sig pk h

/-- the recognisers never panic, on any bytes -/
theorem C16_recognisers_no_panic (lo : Nat) (pk s : Bytes) (p : String) :
    checkUnlockScriptAddrW lo pk s ≠ .panic p ∧ extractPubkeyW lo s ≠ .panic p :=
  ⟨addr_ne_panic lo pk s p, extract_ne_panic lo s p⟩

/-- obligations on the generated name tables: every printer name that the parser maps back to its byte is a
    clean token, the three OP_PUSHDATA names parse to 76/77/78, every parser key starts with `O` (so a
    `0x…` token is never a name) -/
theorem C16_name_tables : GoodTables pinned := goodTables_pinned

/-- every script is the encoding of the items the printer sees, and items are recovered from their encoding -/
theorem C16_text_items (s : Bytes) (items : List Item) (hwf : ∀ it ∈ items, it.wf = true) :
    encode (lex s) = s ∧ lex (encode items) = items :=
  ⟨encode_lex s, lex_encode items hwf⟩

/-- The text of a script parses back to the identical script (at character level: printer string, separator
    split, token decoding, pushdata counter) whenever the script satisfies `safe`: every push is complete,
    every opcode has a name in both tables, and no direct push is printed while the parser's "inside
    pushdata" counter — left at 1 by OP_PUSHDATA2 and at 3 by OP_PUSHDATA4, decremented per token — is
    positive. -/
theorem C16_text_roundtrip_partial (s : Bytes) (h : safe pinned 0 (lex s) = true) :
    parseString pinned (printString pinned s) = .ok s :=
  roundTrip_script goodTables_pinned s h

/-- in particular: all pushes complete, all opcodes named, no OP_PUSHDATA2/OP_PUSHDATA4 -/
theorem C16_text_roundtrip_no_pushdata24 (items : List Item)
    (h : ∀ it ∈ items, it.wf = true ∧
      match it with
      | .op b => Named pinned b = true
      | .push _ => True
      | .pd1 _ => True
      | _ => False) :
    parseString pinned (printString pinned (encode items)) = .ok (encode items) := by
  apply roundTrip_safe goodTables_pinned items (fun it hit => (h it hit).1)
  suffices ∀ k, k = 0 → safe pinned k items = true from this 0 rfl
  induction items with
  | nil => intro k _; rfl
  | cons it r ih =>
    intro k hk
    subst hk
    have hit := (h it (by simp)).2
    have hr := ih (fun x hx => h x (by simp [hx]))
    cases it with
    | op b => simp only [safe, Bool.and_eq_true]; exact ⟨hit, hr _ rfl⟩
    | push d => simp only [safe, Bool.and_eq_true]; exact ⟨rfl, hr _ rfl⟩
    | pd1 d => simp only [safe]; exact hr _ rfl
    | pd2 d => cases hit
    | pd4 d => cases hit
    | trunc x => cases hit

/-- the full statement of the property: every script of complete pushes and opcodes the interpreter
    executes round-trips -/
def C16_text_roundtrip_full : Prop :=
  ∀ items : List Item,
    (∀ it ∈ items, it.wf = true ∧ (∀ b, it = .op b → Model.Interp.decodeOp b ≠ .bad)) →
    parseString pinned (printString pinned (encode items)) = .ok (encode items)

/-- recorded defect `text-pushdata-token-count`: the parser skips 3 tokens after OP_PUSHDATA2 while the
    printer emits 2, so the push opcode of the following item is lost:
    `4d0300 010203 02 1234` → "OP_PUSHDATA2 0x0300 0x010203 0x1234" → `4d0300 010203 1234` -/
theorem C16_text_pushdata_token_count_witness :
    printString pinned [0x4d, 3, 0, 1, 2, 3, 2, 0x12, 0x34] = "OP_PUSHDATA2 0x0300 0x010203 0x1234".toList ∧
    parseString pinned (printString pinned [0x4d, 3, 0, 1, 2, 3, 2, 0x12, 0x34])
      = .ok [0x4d, 3, 0, 1, 2, 3, 0x12, 0x34] ∧
    -- with the counter matching the printer (2 tokens) the same script round-trips
    roundTrip { pinned with pd2 := 2, pd4 := 2 } [0x4d, 3, 0, 1, 2, 3, 2, 0x12, 0x34]
      = .ok [0x4d, 3, 0, 1, 2, 3, 2, 0x12, 0x34] := by
  refine ⟨by decide +kernel, by decide +kernel, by decide +kernel⟩

/-- recorded defect `text-unnamed-opcode`: OP_INVERT (131) has no name in the printer, is printed as a
    decimal number and parsed as a number push: `51 83` → "OP_1 131" → `51 02 83 00`.  The executed opcodes
    without a printer name are exactly INVERT, LSHIFT, RSHIFT, NOP1 and NOP4..NOP10. -/
theorem C16_text_unnamed_opcode_witness :
    printString pinned [0x51, 0x83] = "OP_1 131".toList ∧
    parseString pinned (printString pinned [0x51, 0x83]) = .ok [0x51, 0x02, 0x83, 0x00] ∧
    (List.range 256).filter (fun b => !(1 ≤ b && b ≤ 78) && Model.Interp.decodeOp (UInt8.ofNat b) != .bad
                                        && !(Named pinned (UInt8.ofNat b)))
      = [131, 152, 153, 176, 179, 180, 181, 182, 183, 184, 185] := by
  refine ⟨by decide +kernel, by decide +kernel, ?_⟩
  simp only [Named, lookupName_strKey]
  decide +kernel

/-- the full statement is refuted by the unnamed opcode above: `OP_1 OP_INVERT` is well formed, executed, and
    does not round-trip -/
theorem C16_text_roundtrip_full_false : ¬ C16_text_roundtrip_full := by
  intro h
  have := h [.op 0x51, .op 0x83] (by
    intro it hit
    simp only [List.mem_cons, List.not_mem_nil, or_false] at hit
    rcases hit with rfl | rfl
    · exact ⟨by decide, fun b hb => by cases hb; decide⟩
    · exact ⟨by decide, fun b hb => by cases hb; decide⟩)
  have e : encode [.op 0x51, .op 0x83] = [0x51, 0x83] := by decide
  rw [e, C16_text_unnamed_opcode_witness.2.1] at this
  exact absurd this (by decide)

/-! ## the hypotheses are satisfiable -/

example : ([] : Bytes).length < 2 ^ 32 := by decide
example : safe pinned 0 (lex [0x76, 0xa9, 0x14, 1, 2, 3, 4, 5, 6, 7, 8, 9, 10, 11, 12, 13, 14, 15, 16, 17, 18, 19, 20, 0x88, 0xac]) = true := by
  decide +kernel
example : safe pinned 0 (lex [0x4d, 1, 0, 7, 0x76, 0x4c, 1, 9, 0x4e, 0, 0, 0, 0, 0x51, 0x52, 0x53, 1, 0xff]) = true := by decide +kernel
example : printString pinned [0x76, 0xa9, 0x02, 0xab, 0xcd, 0x4c, 0x01, 0x07] = "OP_DUP OP_HASH160 0xabcd OP_PUSHDATA1 0x01 0x07".toList := by
  decide +kernel
example : (9 : Nat) ≤ (List.replicate 71 (0 : UInt8)).length ∧ (List.replicate 71 (0 : UInt8)).length ≤ 73 := by decide
example : checkUnlockScript (createUnlockScript (List.replicate 40 0x30) (List.replicate 33 2)) = true := by decide +kernel
example : checkUnlockScriptPinned (createUnlockScript (List.replicate 40 0x30) (List.replicate 33 2)) = false := by decide +kernel

/-- three pushes, the second a PUSHDATA1 push standing at offset 2 (a toy instance of the list theorem, evaluated) -/
example : (([[7], List.replicate 80 1, []] : List Bytes).foldl appendData []).length = 2 + 82 + 1 := by decide +kernel

end CG.Props.C16
