import CG.Model.Header
import CG.Crypto.Sha256
import CG.Generated.Tables
/-!
# The genesis blocks declared by `src/network/network.rs` are what they claim to be

For each of the seven networks the harness prints, from the tree under test, the header fields of
`Network::genesis_block()`, the value of `Network::genesis_hash()` and the serialised transactions of the
block (`CG.Generated.C19_GENESIS_0 … 6`, rewritten on every run).  The theorem below is evaluated by the
kernel with the Lean SHA-256 of `CG.Crypto` (no axioms beyond the usual three): for every network

* the double SHA-256 of the 80-byte serialisation of the declared header (`CG.Model.Header.serialize`,
  C19) is the declared genesis hash,
* the block has one transaction whose double SHA-256 is the header's Merkle root (so the root check of
  `Block::validate` passes — C14), and
* `BlockHeader::validate` (C19's model: proof of work against the compact target, no predecessors)
  accepts the header with that hash.

It ties three things that are otherwise only compared at run time: the tree's constants, the header
serialisation model and the independent SHA-256 used as the reference in the correspondence runs.
-/
namespace CG.Props.Genesis
open CG CG.Model

def bytesOf (l : List Nat) : Bytes := l.map UInt8.ofNat

structure G where
  header : Header.BlockHeader
  ghash : Bytes
  ntx : Nat
  txs : Bytes

/-- reads one table as `harness/src/c19.rs` writes it: the four integer fields `version, timestamp, bits,
    nonce` (not the header's wire order), then the bytes `prev_hash` (0–31), `merkle_root` (32–63), the
    declared genesis hash (64–95), the transaction count (96), the serialised transactions (from 97) -/
def parse (l : List Nat) : Option G :=
  match l with
  | v :: t :: b :: n :: rest =>
    if rest.length < 97 then none
    else some ⟨⟨v, bytesOf (rest.take 32), bytesOf ((rest.drop 32).take 32), t, b, n⟩,
               bytesOf ((rest.drop 64).take 32), (rest.drop 96).headD 0, bytesOf (rest.drop 97)⟩
  | _ => none

def okGenesis (l : List Nat) : Bool :=
  match parse l with
  | none => false
  | some g =>
    let hh := Header.hash Crypto.sha256d g.header
    hh == g.ghash && g.ntx == 1 && Crypto.sha256d g.txs == g.header.merkleRoot &&
    (match Header.validate g.header.timestamp g.header.bits hh [] with
     | .ok _ => true
     | _ => false)

/-- what the seven networks declare, in the order of `Network` -/
def declared : List (List Nat) :=
  [Generated.C19_GENESIS_0, Generated.C19_GENESIS_1, Generated.C19_GENESIS_2, Generated.C19_GENESIS_3,
   Generated.C19_GENESIS_4, Generated.C19_GENESIS_5, Generated.C19_GENESIS_6]

/-- the distinct declarations (two: mainnets and testnets), so that each block is hashed once -/
def distinct : List (List Nat) := declared.eraseDups

/-- what `okGenesis` asks of the header alone: its hash, the transaction count, its proof of work -/
def okHeader (l : List Nat) : Bool :=
  match parse l with
  | none => false
  | some g =>
    let hh := Header.hash Crypto.sha256d g.header
    hh == g.ghash && g.ntx == 1 &&
    (match Header.validate g.header.timestamp g.header.bits hh [] with
     | .ok _ => true
     | _ => false)

/-- the serialised transactions of a declaration and the Merkle root they must hash to -/
def txClaim (l : List Nat) : Option (Bytes × Bytes) :=
  (parse l).map fun g => (g.txs, g.header.merkleRoot)

def okClaim (p : Bytes × Bytes) : Bool := Crypto.sha256d p.1 == p.2

theorem okGenesis_of {l : List Nat} {p : Bytes × Bytes} (hh : okHeader l = true) (hp : txClaim l = some p)
    (hc : okClaim p = true) : okGenesis l = true := by
  unfold okHeader at hh
  unfold txClaim at hp
  unfold okGenesis
  cases hg : parse l with
  | none => simp [hg] at hp
  | some g =>
    simp only [hg, Option.map_some, Option.some.injEq] at hh hp
    subst hp
    simp only [okClaim] at hc
    simp only [Bool.and_eq_true] at hh ⊢
    exact ⟨⟨⟨hh.1.1, hh.1.2⟩, hc⟩, hh.2⟩

/-- the distinct claims (one: all seven blocks carry the same coinbase transaction), so that each list of
    transactions is hashed once -/
def claims : List (Bytes × Bytes) := (distinct.filterMap txClaim).eraseDups

theorem headers_ok : distinct.all okHeader = true := by decide +kernel

theorem claims_ok : claims.all okClaim = true := by decide +kernel

theorem claims_cover : distinct.all (fun l => (txClaim l).any claims.contains) = true := by decide +kernel

theorem distinct_ok : distinct.all okGenesis = true := by
  rw [List.all_eq_true]
  intro l hl
  have hc := List.all_eq_true.mp claims_cover l hl
  obtain ⟨p, hp, hmem⟩ := (Option.any_eq_true _ _).mp hc
  exact okGenesis_of (List.all_eq_true.mp headers_ok l hl) hp
    (List.all_eq_true.mp claims_ok p (List.contains_iff_mem.mp hmem))

theorem declared_subset : declared.all (fun g => distinct.contains g) = true := by decide +kernel

/-- **Every network's genesis block hashes to its declared genesis hash, carries the Merkle root of its
    one transaction, and satisfies its own proof of work.** -/
theorem C19_genesis_blocks_consistent : ∀ g ∈ declared, okGenesis g = true := by
  intro g hg
  have h1 := List.all_eq_true.mp declared_subset g hg
  have h2 : g ∈ distinct := by simpa using h1
  exact List.all_eq_true.mp distinct_ok g h2

example : declared.length = 7 ∧ distinct.length = 2 := by decide +kernel

end CG.Props.Genesis
