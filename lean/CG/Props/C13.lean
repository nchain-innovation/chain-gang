import CG.Proofs.RxOnce
import CG.Proofs.RxSingle
import CG.Model.RxExplore
/-!
# C13 — Event publication never loses or duplicates events under concurrency

Model: `CG.Model.Rx` — a transition system at the granularity of individual lock / condvar
operations of `util::rx` (`Subject`, `Single`, `Poller`, `Observable::poll`), `util::future`,
`util::latch`, in two instances: `Algo.pinned` (the code as pinned) and `Algo.repaired` (snapshot
publication, `/verif/proposed_fixes/C13-rx-snapshot-publication.patch`).
Spec: `CG.Spec.EventSpec` (histories).  Tie to the code: schedule replay through the H2 sync-point
hooks (`harness/src/c13.rs`, `CG.Drv.C13`).

* On the pinned algorithm the property is **false**; three concrete schedules are refuted by `decide`.
* On the repaired algorithm the positive theorems hold for **any number of threads, any programs, any
  schedule** (including spurious condvar wake-ups): they are proved by invariants over all reachable
  states, not by exploration.
* `CG.Model.RxExplore` additionally explores the stated bound (≤ 3 threads × ≤ 2 operations)
  exhaustively by evaluation — bounded model exploration, labelled as such, not a proof.
-/
namespace CG.Props.C13
open CG.Model.Rx CG.Spec.EventSpec

/-- the state reached from the initial state of `progs` (thread `t` runs `progs[t]`) under `sched` -/
def reach (a : Algo) (kd : Kind) (behs : List Beh) (progs : List (List Op)) (sched : List Act) : Sys :=
  runActs (init a kd behs progs) sched

def ExactlyOnceStmt (a : Algo) : Prop :=
  ∀ (behs : List Beh) (progs : List (List Op)) (sched : List Act), ExactlyOnce (reach a .subject behs progs sched).hist

def SingleOnceStmt (a : Algo) : Prop :=
  ∀ (behs : List Beh) (progs : List (List Op)) (sched : List Act), SingleOnce (reach a .single behs progs sched).hist

/-- no interleaving deadlocks: in every reachable state some thread can move, unless every unfinished
    thread is a poller waiting (un-signalled, latch closed) for an event that has not been published -/
def DeadlockFreeStmt (a : Algo) : Prop :=
  ∀ (kd : Kind) (behs : List Beh) (progs : List (List Op)) (sched : List Act),
    let s := reach a kd behs progs sched
    (∃ t, t < s.n ∧ enabled s t = true) ∨ (∀ t, finished s t = true ∨ legitWait s t = true)

theorem run_eq_runActs (s : Sys) (sched : List Tid) : run s sched = runActs s (sched.map Act.run) := by
  unfold run runActs
  induction sched generalizing s with
  | nil => rfl
  | cons t ts ih => simp only [List.foldl_cons, List.map_cons]; exact ih _

/-- Thread 0: `subscribe(o0); publish(7)`, thread 1: `subscribe(o1)`.  Thread 0 takes the write lock of
    `observers`; thread 1's `try_write` fails *because of the other subscriber*, o1 is parked in `pending`
    and `subscribe(o1)` returns; thread 0 returns and publishes: o1 is not in `observers` yet. -/
def lostProgs : List (List Op) := [[.sub 0, .pub 7], [.sub 1]]
def lostSched : List Tid := [0, 1, 1, 1, 0, 0, 0, 0, 0, 0, 0, 0, 0, 0, 0, 0]
/-- the history of that run: o1's subscription returned (position 2) before the publication began
    (position 4), the publication ended (position 6), o1 got nothing -/
def lostHist : Hist :=
  [.subBegin 0 (.user 0) 0, .subBegin 1 (.user 1) 1, .subRet 1 (.user 1) 1, .subRet 0 (.user 0) 0,
   .pubBegin 0 7 2, .deliver 0 (.user 0) 0 7 2, .pubEnd 0 7 2]

theorem lost_run : (run (init .pinned .subject [] lostProgs) lostSched).hist = lostHist := by decide

theorem lostHist_not_exactlyOnce : ¬ ExactlyOnce lostHist := by
  intro H
  -- publication 2 (event 7, thread 0) begins at position 4 and ends at 6; `subRet 1 (.user 1) 1` is at position 2
  obtain ⟨m, t'', h1, h2, h3⟩ := H.neverLost 4 6 0 7 2 (by decide) (by decide) (by decide) 2 1 1 1 (by decide) (by decide)
    (by
      intro m t hm heq
      have : m = 0 ∨ m = 1 ∨ m = 2 ∨ m = 3 ∨ m = 4 ∨ m = 5 := by omega
      rcases this with rfl | rfl | rfl | rfl | rfl | rfl <;> simp [lostHist] at heq)
  have : m = 5 := by omega
  subst this
  simp [lostHist] at h3

/-- **Lost subscription** (pinned algorithm): an observer whose `subscribe` had returned misses an event
    whose publication began afterwards. -/
theorem C13_lost_subscription : ¬ ExactlyOnceStmt .pinned := by
  intro H
  have := H [] lostProgs (lostSched.map Act.run)
  unfold reach at this
  rw [← run_eq_runActs, lost_run] at this
  exact lostHist_not_exactlyOnce this

/-- the same program on a single-shot subject; schedule: both take the value read lock, thread 0 pushes
    first, thread 1 is parked in `pending`, thread 0 emits -/
def singleSched : List Tid := [0, 1, 0, 1, 1, 1, 1] ++ List.replicate 13 0

theorem single_run : (run (init .pinned .single [] lostProgs) singleSched).hist = lostHist := by decide

theorem lostHist_not_singleOnce : ¬ SingleOnce lostHist := by
  intro H
  -- the same publication (the first of the history) and the same subscription
  obtain ⟨m, t'', h1, h2⟩ := H.everySubscriber 4 6 0 7 2 ⟨by decide, by
      intro i' t' e' p' hi heq
      have : i' = 0 ∨ i' = 1 ∨ i' = 2 ∨ i' = 3 := by omega
      rcases this with rfl | rfl | rfl | rfl <;> simp [lostHist] at heq⟩ (by decide) 2 1 1 1 (by decide)
    (by
      intro m t hm heq
      have : m = 0 ∨ m = 1 ∨ m = 2 ∨ m = 3 ∨ m = 4 ∨ m = 5 := by omega
      rcases this with rfl | rfl | rfl | rfl | rfl | rfl <;> simp [lostHist] at heq)
  have : m = 0 ∨ m = 1 ∨ m = 2 ∨ m = 3 ∨ m = 4 ∨ m = 5 := by omega
  rcases this with rfl | rfl | rfl | rfl | rfl | rfl <;> simp [lostHist] at h2

/-- **Single-shot value never delivered** (pinned algorithm): the parked subscriber of a `Single` never
    receives its one value (and a `poll()` parked that way would block for ever). -/
theorem C13_single_never_delivered : ¬ SingleOnceStmt .pinned := by
  intro H
  have := H [] lostProgs (singleSched.map Act.run)
  unfold reach at this
  rw [← run_eq_runActs, single_run] at this
  exact lostHist_not_singleOnce this

/-- one thread: `subscribe(o0); publish(7)` on a `Single`, o0's callback subscribes o1 -/
def deadProgs : List (List Op) := [[.sub 0, .pub 7]]
def deadBehs : List Beh := [.cbSub 1, .plain]
def deadSched : List Tid := List.replicate 8 0

theorem dead_run :
    let s := run (init .pinned .single deadBehs deadProgs) deadSched
    s.n = 1 ∧ enabled s 0 = false ∧ finished s 0 = false ∧ legitWait s 0 = false ∧
    hd s 0 = some (.pqReadV (.user 1)) ∧ s.lockV.writer = some 0 := by decide

/-- **Re-entrant deadlock** (pinned algorithm): `Single::next` emits while holding `value.write()`; a
    subscription made from inside an observer callback asks for `value.read()` on the same thread. -/
theorem C13_single_reentrant_deadlock : ¬ DeadlockFreeStmt .pinned := by
  intro H
  have := H .single deadBehs deadProgs (deadSched.map Act.run)
  simp only [reach, ← run_eq_runActs] at this
  obtain ⟨hn, he, hf, hl, -, -⟩ := dead_run
  rcases this with ⟨t, ht, hte⟩ | hall
  · rw [hn] at ht
    have : t = 0 := by omega
    subst this; rw [he] at hte; cases hte
  · rcases hall 0 with h | h
    · rw [hf] at h; cases h
    · rw [hl] at h; cases h

/-- **Exactly once** (plain subject): an observer whose `subscribe` call returned before a publication
    began, and which is alive until the publication ended, receives that event — once per subscription,
    never twice, and nothing is delivered that was not subscribed and published.  Subscriptions made from
    inside a callback are ordinary subscriptions of the publishing thread and are covered. -/
theorem C13_exactly_once : ExactlyOnceStmt .repaired := by
  intro behs progs sched
  exact exactlyOnce_reach behs progs sched

/-- **Single-shot exactly once**: only the first publication's value is ever delivered, at most once per
    subscription, and every subscription that has returned has been served once the emission is over —
    whether it subscribed before, during or after the emission (including from inside a callback of the
    emission). -/
theorem C13_single_exactly_once : SingleOnceStmt .repaired := by
  intro behs progs sched
  exact singleOnce_reach behs progs sched

/-- **No interleaving deadlocks.** -/
theorem C13_deadlock_free : DeadlockFreeStmt .repaired := by
  intro kd behs progs sched
  exact enabled_or_legit (Inv3_reach kd behs progs sched)

/-- **No lost wake-up** (one waiter per latch, as `poll` creates them): a thread asleep in
    `Condvar::wait` on a latch whose flag is set has been signalled, or the thread that set the flag still
    holds the latch mutex and its very next operation is the `notify_one` — and that operation is enabled.
    The flag is checked under the mutex that `open` holds. -/
theorem C13_latch_no_lost_wakeup (kd : Kind) (behs : List Beh) (progs : List (List Op)) (sched : List Act)
    (t : Tid) (a k : Nat) :
    let s := reach .repaired kd behs progs sched
    waitingOn s t = some (a, k) → s.lOpen a k = true →
      a = t ∧ ((s.thr t).woken = true ∨ ∃ u, u < s.n ∧ hd s u = some (.putNotify a k) ∧ enabled s u = true) := by
  intro s hw ho
  have I : Inv3 s := Inv3_reach kd behs progs sched
  have hh := hd_of_waitingOn hw
  refine ⟨I.g.a.go t _ (List.mem_of_mem_head? hh) a rfl, ?_⟩
  cases hwk : (s.thr t).woken with
  | true => exact .inl rfl
  | false =>
    obtain ⟨u, hu⟩ := I.g.l.hw t a k hh ho hwk
    exact .inr ⟨u, (enabled_of_hd I.g.a hu (execE_alwaysOn s u rfl)).1, hu, (enabled_of_hd I.g.a hu (execE_alwaysOn s u rfl)).2⟩

/-- **A blocking wait is never blocked with the flag set**: a thread asleep in `poll()` whose latch has been
    opened (the event it waits for has been put into its future) can move, or the thread holding the latch
    mutex can — with `C13_deadlock_free`: the only way for a `poll()` to wait for ever is that no event is
    published.  ("Returns once published" as a safety statement; no fairness is assumed.) -/
theorem C13_poll_returns (kd : Kind) (behs : List Beh) (progs : List (List Op)) (sched : List Act) (t : Tid) (a k : Nat) :
    let s := reach .repaired kd behs progs sched
    waitingOn s t = some (a, k) → s.lOpen a k = true →
      enabled s t = true ∨ ∃ u, u < s.n ∧ s.lockL a k = some u ∧ enabled s u = true := by
  intro s hw ho
  exact waiter_not_blocked (Inv3_reach kd behs progs sched) hw ho

/-- a signalled waiter whose latch mutex is free can move -/
theorem C13_woken_waiter_enabled (kd : Kind) (behs : List Beh) (progs : List (List Op)) (sched : List Act)
    (t : Tid) (a k : Nat) :
    let s := reach .repaired kd behs progs sched
    waitingOn s t = some (a, k) → (s.thr t).woken = true → s.lockL a k = none → enabled s t = true := by
  intro s hw hwk hl
  have I : Inv3 s := Inv3_reach kd behs progs sched
  exact (enabled_of_hd I.g.a (hd_of_waitingOn hw) (by simp [execE, hwk, hl])).2

/-- **Remark (multi-waiter caveat of `notify_one`).** With two waiters asleep on one shared latch, `open`
    sets the flag and wakes one of them; the other stays asleep with the flag set and nothing left to run.
    `poll()` never shares a latch, so this does not arise through the `Observable` API. -/
theorem C13_remark_notify_one_wakes_one :
    let s := MultiLatch.run { asleep := 2 } [.opener, .opener, .opener, .waiter]
    s.flag = true ∧ s.asleep = 1 ∧ s.returned = 1 ∧ MultiLatch.stuck s = true := by decide

/-- a repaired run in which a subscription returns before a publication begins — and is served -/
example : (run (init .repaired .subject [] lostProgs) [0, 0, 1, 1, 0, 0, 0, 0, 0, 0]).hist =
    [.subBegin 0 (.user 0) 0, .subRet 0 (.user 0) 0, .subBegin 1 (.user 1) 1, .subRet 1 (.user 1) 1,
     .pubBegin 0 7 2, .deliver 0 (.user 0) 0 7 2, .deliver 0 (.user 1) 1 7 2, .pubEnd 0 7 2] := by decide

/-- a reachable state of the repaired algorithm in which a poller legitimately waits (nothing published) -/
example : let s := run (init .repaired .subject [] [[.poll]]) [0, 0, 0, 0]
    waitingOn s 0 = some (0, 0) ∧ legitWait s 0 = true ∧ enabled s 0 = false := by decide

/-- and one in which it has been signalled and can move -/
example : let s := run (init .repaired .subject [] [[.poll], [.pub 5]]) [0, 0, 0, 0, 1, 1, 1, 1, 1, 1]
    waitingOn s 0 = some (0, 0) ∧ s.lOpen 0 0 = true ∧ (s.thr 0).woken = true := by decide

/-! ## Bounded model exploration (NOT a proof): sample programs, all interleavings -/

#guard (Explore.run1 .repaired .subject [] [[.sub 0, .pub 1], [.sub 1, .pub 2]]) == ⟨305, 74, 0⟩
#guard (Explore.run1 .repaired .single [] [[.sub 0, .pub 1], [.sub 1, .pub 2]]) == ⟨4365, 1132, 0⟩
#guard (Explore.run1 .repaired .single [.cbSub 1, .plain] [[.sub 0, .pub 7]]).bad == 0
#guard (Explore.run1 .pinned .subject [] [[.sub 0, .pub 1], [.sub 1, .pub 2]]).bad != 0

end CG.Props.C13
