import CG.Proofs.PeerRef
import CG.Props.C11
import CG.Generated.Tables
/-!
# C12 — Peer lifecycle: handshake, ordered delivery, exactly-once events

Property theorems only.  Model: `CG.Model.Peer` — `Peer::connect / connect_internal / handshake /
handle_message / send / disconnect` of `src/peer/peer.rs` as a state machine over events
`remoteFrame m | remoteGarbage g | remoteClose | remoteSilence | localSend m | localDisconnect`
with outputs `emitConnected | emitDisconnected | deliver m | wrote w | sendResult r`; `Single`
(`src/util/rx.rs`) enters only through its API semantics "the first value wins".  Reference:
`CG.Spec.PeerSpec` (a session cut at the end of the handshake and at the first terminating event).

Every theorem is by induction over ARBITRARY event lists (any length, any interleaving of remote
and local events); the `PeerFilter` is an arbitrary function.

Bytes to events.  What the remote does at byte level — segmentation, pacing, a frame cut short by
end of stream, bad magic, bad checksum, oversize length — reaches the peer only through the
receive loop, and C11 proves what that loop makes of any byte stream under any read schedule:
`C11_complete` / `C11_fragmentation_independent` (valid frames, then possibly an incomplete one,
then end of stream: exactly the frames' messages in order, then `NotConnected`),
`C11_stops_at_first_non_message` (nothing is emitted from the first non-message on, and the loop
stops with that error), `C11_eof_is_disconnect`.  `C12_bytes_lift_to_events` composes them with
the state machine.

What is partial:
* one event = one atomic step in this model.  For a message the step is "read returns, the `connected`
  flag is tested (peer.rs:295), `handle_message`, publication".  A LOCAL `disconnect()` whose flag store
  (peer.rs:195) lands after that test is linearised AFTER the message, although on the real threads
  its disconnected event can be published before the message is.  Hence
  `C12_nothing_after_remote_disconnect` is claimed for remote-caused disconnection (which is what
  the property states); `C12_local_disconnect_linearised` says what the sequential model gives
  for a local one.  The interleaving of the receive thread with local calls, step by step on the
  shared accesses, is modelled in `CG.Model.PeerConc` and treated in `CG.Props.C12conc`, where
  `C12_conc_refines_sequential_model` relates the two models.
* observed by the correspondence, not modelled: socket buffering, timeouts (the handshake's 3 s read
  timeout is the event `remoteSilence`); a read of the handshake that times out inside a message,
  `Message::Partial` during the handshake, write errors of a socket the remote has reset, and
  `TcpStream::connect` failing.
* the handshake reads from the raw `TcpStream` with `read_exact` (no `AtomicReader`): that
  segmentation without a timeout does not matter there is the stream property of TCP, observed by
  the correspondence.
-/
namespace CG.Props.C12
open CG CG.Model.Peer CG.Spec.PeerSpec CG.Proofs.Peer

variable (f : VersionInfo → Bool)

/-- **Handshake order.** Of the outputs that belong to the handshake (`wrote version`,
    `wrote verack`, `wrote hsPing`, `emitConnected`) a session produces: first our version, and
    then — exactly when the remote's first two messages are a version the filter accepts followed
    by a verack — our verack, our ping and the connected event, in this order, once.  Local
    `send`/`disconnect` calls, whatever their number and position, do not change this. -/
theorem C12_handshake_order (evs : List Event) :
    (run f evs).2.filter isHs =
      .wrote .version ::
        (if handshakeCompletes f evs then [.wrote .verack, .wrote .hsPing, .emitConnected] else []) ∧
    handshakeCompletes f evs =
      (match remoteOnly evs with
       | .remoteFrame vm :: .remoteFrame am :: _ => acceptable f vm && isVerack am
       | _ => false) := by
  refine ⟨?_, handshakeCompletes_remoteOnly f evs⟩
  have := hs_run_version f evs init inv_init rfl
  simp only [run, List.filter_cons, isHs, if_true, this]

/-- **Connected exactly once, before any message.** In every session the connected event is
    published at most once, every delivery comes after it, and it is published exactly once when
    the handshake completes. -/
theorem C12_connected_once_before_any_message (evs : List Event) :
    List.count .emitConnected (run f evs).2 ≤ 1 ∧
    (∀ pre m post, (run f evs).2 = pre ++ .deliver m :: post → .emitConnected ∈ pre) ∧
    (handshakeCompletes f evs = true → List.count .emitConnected (run f evs).2 = 1) := by
  have h := (order_run f evs init inv_init).1
  have h' : okOrder (run f evs).2 false = true := by simpa [run, okOrder, init] using h
  refine ⟨(okOrder_spec _ h').1, (okOrder_spec _ h').2, ?_⟩
  intro hc
  have h1 := (C12_handshake_order f evs).1
  rw [hc] at h1
  have : List.count .emitConnected ((run f evs).2.filter isHs) = 1 := by rw [h1]; decide
  rw [List.count_filter (by rfl)] at this
  exact this

/-- **Every message exactly once, in arrival order.** Against a conforming remote — its messages
    are a version the filter accepts, a verack, then `ms`, of any kinds and number — and with any
    local `send` calls of writable messages interleaved anywhere, the messages delivered to the
    observers are exactly `ms`, in order; the peer is still connected and has not announced
    disconnection. -/
theorem C12_each_message_once_in_order (evs : List Event) (vm am : Msg) (ms : List Msg)
    (hv : acceptable f vm = true) (ha : isVerack am = true)
    (hr : remoteOnly evs = .remoteFrame vm :: .remoteFrame am :: ms.map .remoteFrame)
    (hl : ∀ e ∈ evs, benign e = true) :
    delivered (run f evs).2 = ms ∧ (run f evs).1.flag = true ∧
    List.count .emitDisconnected (run f evs).2 = 0 := by
  have h := version_run f evs init vm am ms inv_init rfl hv ha hr hl
  refine ⟨by simpa [run, delivered] using h.1, ?_, by simpa [run] using h.2.2⟩
  have := h.2.1
  simp only [live, Bool.and_eq_true] at this
  exact this.1.2

/-- … and for ANY session whatever (faults, local calls, anything): what is delivered is a
    subsequence of the messages that arrived — nothing invented, duplicated or reordered. -/
theorem C12_deliveries_are_arrivals_in_order (evs : List Event) :
    List.Sublist (delivered (run f evs).2) (evs.filterMap frameOf) := by
  simpa [run, delivered] using (delivery_run f evs init).2.2

/-- **Ping is answered by pong with the same nonce.** In every session the pongs written are, in
    order, the nonces of the pings delivered: each ping is answered once, with its nonce, and no
    other pong is ever written. -/
theorem C12_ping_pong_same_nonce (evs : List Event) :
    pongs (run f evs).2 = (delivered (run f evs).2).filterMap pingNonce := by
  simpa [run, pongs, delivered] using (delivery_run f evs init).1

/-- against a conforming remote: the pongs are the nonces of the remote's pings -/
theorem C12_ping_pong_conforming (evs : List Event) (vm am : Msg) (ms : List Msg)
    (hv : acceptable f vm = true) (ha : isVerack am = true)
    (hr : remoteOnly evs = .remoteFrame vm :: .remoteFrame am :: ms.map .remoteFrame)
    (hl : ∀ e ∈ evs, benign e = true) :
    pongs (run f evs).2 = ms.filterMap pingNonce := by
  rw [C12_ping_pong_same_nonce, (C12_each_message_once_in_order f evs vm am ms hv ha hr hl).1]

/-- **State reflects the announcements.** In every session `minfee()`, `sendheaders()`,
    `sendcmpct()` afterwards are what the delivered feefilter / sendheaders / sendcmpct messages
    announce (the last feefilter, any sendheaders, the last sendcmpct), starting from 0/false/false. -/
theorem C12_state_reflects_announcements (evs : List Event) :
    ((run f evs).1.minfee, (run f evs).1.sendheaders, (run f evs).1.sendcmpct) =
      annOf (delivered (run f evs).2) := by
  have := (delivery_run f evs init).2.1
  simpa [run, delivered, annState, annOf, init] using this

theorem C12_state_conforming (evs : List Event) (vm am : Msg) (ms : List Msg)
    (hv : acceptable f vm = true) (ha : isVerack am = true)
    (hr : remoteOnly evs = .remoteFrame vm :: .remoteFrame am :: ms.map .remoteFrame)
    (hl : ∀ e ∈ evs, benign e = true) :
    ((run f evs).1.minfee, (run f evs).1.sendheaders, (run f evs).1.sendcmpct) = annOf ms := by
  rw [C12_state_reflects_announcements, (C12_each_message_once_in_order f evs vm am ms hv ha hr hl).1]

/-- the state in which event `e` of `pre ++ e :: post` arrives -/
abbrev stateAfter (pre : List Event) : State := (runFrom f init pre).1

/-- **Disconnected exactly once.** (i) In every session the disconnected event is published at most
    once (however many of remote close, garbage, local `disconnect()`, failing `send`, … occur).
    (ii) If the remote commits a fault — closes, sends something that is not a message (bad magic,
    bad checksum, oversize length, undecodable payload), stays silent through the handshake
    timeout, sends the wrong handshake message, or a version the filter rejects — it is published
    exactly once. -/
theorem C12_disconnect_exactly_once (evs : List Event) :
    List.count .emitDisconnected (run f evs).2 ≤ 1 ∧
    ∀ pre e post, evs = pre ++ e :: post → remoteFault f (stateAfter f pre) e = true →
      List.count .emitDisconnected (run f evs).2 = 1 := by
  have hc := disc_count_run f evs init
  have e0 : List.count .emitDisconnected (run f evs).2 = List.count .emitDisconnected (runFrom f init evs).2 := by
    simp [run]
  constructor
  · -- the count is the final value of `discFired`, as a number
    have hle : b2n (runFrom f init evs).1.discFired ≤ 1 := by
      cases (runFrom f init evs).1.discFired <;> decide
    have h0 : b2n init.discFired = 0 := rfl
    rw [e0]
    omega
  · intro pre e post he hf
    subst he
    have hinv := inv_runFrom f pre init inv_init
    have hq := fault_step f _ e hinv hf
    have : (runFrom f init (pre ++ e :: post)).1.discFired = true :=
      (quiet_iff.mp (after_quiet f pre post e init hq).2).2.1
    rw [e0]
    rw [this] at hc
    simpa [init] using hc

/-- the surface forms of (ii): a close or a non-message anywhere in the session … -/
theorem C12_disconnect_once_on_close_or_garbage (evs : List Event)
    (h : .remoteClose ∈ evs ∨ ∃ g, .remoteGarbage g ∈ evs) :
    List.count .emitDisconnected (run f evs).2 = 1 := by
  rcases h with h | ⟨g, h⟩
  · obtain ⟨pre, post, rfl⟩ := List.append_of_mem h
    exact (C12_disconnect_exactly_once f _).2 pre _ post rfl rfl
  · obtain ⟨pre, post, rfl⟩ := List.append_of_mem h
    exact (C12_disconnect_exactly_once f _).2 pre _ post rfl rfl

/-- … a first message that is not a version the filter accepts (verack before version, no version,
    filter rejection) … -/
theorem C12_disconnect_once_on_bad_version (evs : List Event) (m : Msg) (rest : List Event)
    (hr : nextRemote evs = some (.remoteFrame m, rest)) (hm : acceptable f m = false) :
    List.count .emitDisconnected (run f evs).2 = 1 := by
  obtain ⟨-, -, pre, he, hl⟩ := nextRemote_some hr
  refine (C12_disconnect_exactly_once f evs).2 pre _ rest he ?_
  have := hs_locals_run f pre init inv_init rfl hl
  simp only [remoteFault, stateAfter]
  rw [this]
  simp [init, hm]

/-- … or a second message that is not a verack (a message between version and verack, a second
    version). -/
theorem C12_disconnect_once_on_bad_verack (evs : List Event) (vm m : Msg) (rest rest2 : List Event)
    (hr : nextRemote evs = some (.remoteFrame vm, rest)) (hv : acceptable f vm = true)
    (hr2 : nextRemote rest = some (.remoteFrame m, rest2)) (hm : isVerack m = false) :
    List.count .emitDisconnected (run f evs).2 = 1 := by
  obtain ⟨-, -, pre, he, hl⟩ := nextRemote_some hr
  obtain ⟨-, -, pre2, he2, hl2⟩ := nextRemote_some hr2
  have hev : evs = (pre ++ .remoteFrame vm :: pre2) ++ .remoteFrame m :: rest2 := by
    rw [he, he2]; simp
  refine (C12_disconnect_exactly_once f evs).2 _ _ rest2 hev ?_
  have h1 := hs_locals_run f pre init inv_init rfl hl
  have hinv := inv_runFrom f pre init inv_init
  have h2 : (step f (runFrom f init pre).1 (.remoteFrame vm)).1.phase = .awaitVerack := by
    rw [step_frame_awaitVersion f (by rw [h1]; rfl), if_pos hv]
  have h3 := hs_locals_run f pre2 (step f (runFrom f init pre).1 (.remoteFrame vm)).1 (inv_step f _ _ hinv)
    (by simp [inHandshake, h2]) hl2
  have : (stateAfter f (pre ++ .remoteFrame vm :: pre2)).phase = .awaitVerack := by
    simp only [stateAfter, runFrom_append, runFrom_cons]
    rw [h3, h2]
  simp only [remoteFault]
  rw [this]
  simp [hm]

/-- **Nothing after a remote-caused disconnection.** Once the remote has committed a fault, the
    rest of the session — whatever arrives, whatever is called — produces nothing but
    `IllegalState` results of `send` calls: no delivery, no second disconnected event, no connected
    event, no write.  The session up to and including the fault has published the disconnected
    event exactly once. -/
theorem C12_nothing_after_remote_disconnect (pre post : List Event) (e : Event)
    (hf : remoteFault f (stateAfter f pre) e = true) :
    (run f (pre ++ e :: post)).2 = (run f (pre ++ [e])).2 ++ sendErrs post ∧
    List.count .emitDisconnected (run f (pre ++ [e])).2 = 1 ∧
    delivered (sendErrs post) = [] ∧ wires (sendErrs post) = [] ∧
    List.count .emitDisconnected (sendErrs post) = 0 ∧ List.count .emitConnected (sendErrs post) = 0 ∧
    (run f (pre ++ e :: post)).1.flag = false := by
  have hinv := inv_runFrom f pre init inv_init
  have hq := fault_step f _ e hinv hf
  have h1 := after_quiet f pre post e init hq
  have hs := sendErrs_silent post
  refine ⟨by simp [run, h1.1], (C12_disconnect_exactly_once f _).2 pre e [] rfl hf, hs.1, hs.2.1, hs.2.2.2.2.1,
    hs.2.2.2.1, (quiet_iff.mp h1.2).1⟩

/-- **Later sends fail with an error.** After a fault of the remote every `send` call returns
    `Err(IllegalState)` — a result, not a panic and not a blocked call: the results of the whole
    session are those up to the fault followed by one `IllegalState` per later call. -/
theorem C12_send_after_disconnect_is_error (pre post : List Event) (e : Event)
    (hf : remoteFault f (stateAfter f pre) e = true) :
    sendResults (run f (pre ++ e :: post)).2 =
      sendResults (run f (pre ++ [e])).2 ++ List.replicate (sendCalls post) (some .illegalState) := by
  rw [(C12_nothing_after_remote_disconnect f pre post e hf).1, sendResults_append, sendErrs_sendResults]

/-- one `send` call after the fault, spelled out -/
theorem C12_send_after_disconnect_single (pre : List Event) (e : Event) (m : Msg)
    (hf : remoteFault f (stateAfter f pre) e = true) :
    (run f (pre ++ e :: [.localSend m])).2 = (run f (pre ++ [e])).2 ++ [.sendResult (some .illegalState)] := by
  rw [(C12_nothing_after_remote_disconnect f pre [.localSend m] e hf).1]
  rfl

/-- **Local termination, as the sequential model linearises it.** Once the handshake is over, a
    local `disconnect()` — or a `send` of a message that cannot be written, which disconnects — is
    followed by nothing but `IllegalState` send results: messages whose step comes later in the
    event list are not delivered.  (On the real threads a message whose flag test preceded the
    call can still be published after the disconnected event: that order is the one thing the
    model does not distinguish.) -/
theorem C12_local_disconnect_linearised (pre post : List Event) (e : Event)
    (hp : inHandshake (stateAfter f pre) = false) (ht : e = .localDisconnect ∨ ∃ m, e = .localSend m ∧ m.writable = false) :
    (run f (pre ++ e :: post)).2 = (run f (pre ++ [e])).2 ++ sendErrs post ∧
    List.count .emitDisconnected (run f (pre ++ e :: post)).2 = 1 := by
  have hinv := inv_runFrom f pre init inv_init
  have hterm : terminates e = true := by
    rcases ht with rfl | ⟨m, rfl, hm⟩
    · rfl
    · simp [terminates, hm]
  have hq := term_step f _ e hinv hp hterm
  have h1 := after_quiet f pre post e init hq
  refine ⟨by simp [run, h1.1], ?_⟩
  have hc := disc_count_run f (pre ++ e :: post) init
  have : (runFrom f init (pre ++ e :: post)).1.discFired = true := (quiet_iff.mp h1.2).2.1
  rw [this] at hc
  simpa [run, init] using hc

section Bytes
open CG.Model.Framing CG.Proofs.Framing
open CG.Spec.Reassembly (Frame expected streamOf StrictFramePrefix)

/-- how a finished run of the receive loop reaches the state machine: its messages, then end of
    stream (`NotConnected`) or a non-message (`step` ignores the `Garbage` tag, so which one stands
    for the other errors is immaterial) -/
def lift (r : List Msg × Final) : List Event :=
  r.1.map .remoteFrame ++
    (match r.2 with
     | .stopped e => if e = DISCONNECTED then [.remoteClose] else [.remoteGarbage .badPayload]
     | .waiting => [])

/-- **Segmentation and pacing do not matter.** For every list of valid frames followed by an
    incomplete frame (or nothing) and end of stream, under ANY read schedule (fragment sizes,
    timeouts) given enough passes, the receive loop hands the state machine exactly the frames'
    messages and then `remoteClose` (`C11_complete`); so two runs of the same session that differ only
    in how the remote's bytes were cut up and paced are the same run. -/
theorem C12_bytes_lift_to_events (c : Cfg Msg) (hw : (toWire c).WF) (frames : List Frame)
    (hv : ∀ fr ∈ frames, Frame.Valid (toWire c) fr) (tail : Bytes) (ht : StrictFramePrefix (toWire c) tail)
    (s1 s2 : List Nat) (f1 f2 : Nat)
    (h1 : s1.length + (streamOf (toWire c) frames ++ tail).length + frames.length < f1)
    (h2 : s2.length + (streamOf (toWire c) frames ++ tail).length + frames.length < f2)
    (pre : List Event) :
    lift (recvLoop c f1 (LoopState.init (streamOf (toWire c) frames ++ tail) s1)) =
      (expected (toWire c) frames).map .remoteFrame ++ [.remoteClose] ∧
    run f (pre ++ lift (recvLoop c f1 (LoopState.init (streamOf (toWire c) frames ++ tail) s1))) =
      run f (pre ++ lift (recvLoop c f2 (LoopState.init (streamOf (toWire c) frames ++ tail) s2))) := by
  rw [CG.Props.C11.C11_complete c hw frames hv tail ht s1 f1 h1, CG.Props.C11.C11_complete c hw frames hv tail ht s2 f2 h2]
  simp [lift]

/-- a stream that goes wrong (bad magic, oversize length, bad checksum, undecodable payload: the
    reference parse stops there with an error other than end of stream): when the loop has stopped
    it has handed over a prefix of the valid frames' messages — by `C11_refines_contiguous` all of
    them — and then a non-message; never anything from the bad frame on. -/
theorem C12_corrupt_bytes_lift_to_garbage (c : Cfg Msg) (hw : (toWire c).WF) (frames : List Frame)
    (hv : ∀ fr ∈ frames, Frame.Valid (toWire c) fr) (junk : Bytes) (e : String)
    (hj : CG.Spec.Reassembly.step (toWire c) junk = .stop e) (hne : e ≠ DISCONNECTED)
    (sched : List Nat) (fuel : Nat) (e' : String)
    (hs : (recvLoop c fuel (LoopState.init (streamOf (toWire c) frames ++ junk) sched)).2 = .stopped e') :
    ∃ ms, ms <+: expected (toWire c) frames ∧
      lift (recvLoop c fuel (LoopState.init (streamOf (toWire c) frames ++ junk) sched)) =
        ms.map .remoteFrame ++ [.remoteGarbage .badPayload] := by
  have h := CG.Props.C11.C11_stops_at_first_non_message c hw frames hv junk e hj sched fuel
  refine ⟨_, h.1, ?_⟩
  have he : e' = e := h.2 e' hs
  simp [lift, hs, he, hne]

end Bytes

/-- **The model refines the reference.** For every session in the reference's scope the whole
    observable log of the state machine — observer calls in order, what the remote receives in
    order, every `send` result, `connected()`, `minfee()`, `sendheaders()`, `sendcmpct()`, whether the
    socket was closed — is the log the cut-based reference `PeerSpec.expected` prescribes: connected
    once and first, every message up to the first terminating event once and in order, pongs with
    the pings' nonces, the announcements reflected, disconnected exactly once iff the session was
    terminated, nothing afterwards, `IllegalState` for every `send` outside the live part. -/
theorem C12_model_matches_reference (evs : List Event) (log : Log) (h : expected f evs = some log) :
    observe (run f evs) = log :=
  model_matches_reference f evs log h

/-- the reference's scope: it is defined for every session without a local `disconnect()` (and for
    those where the call comes after the handshake has ended, completed or broken) -/
theorem C12_reference_defined (evs : List Event) (h : hasLocalDisconnect evs = false) :
    (expected f evs).isSome = true := by
  have take_ok : ∀ n, hasLocalDisconnect (evs.take n) = false := by
    intro n
    cases hh : hasLocalDisconnect (evs.take n) with
    | false => rfl
    | true =>
      exfalso
      simp only [hasLocalDisconnect, List.any_eq_true] at hh
      obtain ⟨x, hx, hx2⟩ := hh
      have : hasLocalDisconnect evs = true := by
        simp only [hasLocalDisconnect, List.any_eq_true]
        exact ⟨x, List.mem_of_mem_take hx, hx2⟩
      rw [h] at this
      cases this
  unfold expected
  split
  · simp [handshakePart, take_ok]
  · split
    · simp [h]
    · unfold brokenPart
      split <;> simp [handshakePart, take_ok]

/-- the early-`disconnect()` behaviour of the code, recorded: a local `disconnect()` during the
    handshake publishes the disconnected event but does not stop the handshake (there is no
    socket to shut down yet): the peer then connects, publishes the connected event AFTER the
    disconnected one, delivers, and accepts `send`.  Outside the property's statement (its
    disconnection clauses are about remote-caused disconnection); `expected` answers `none`. -/
theorem C12_early_local_disconnect_witness (vm am m : Msg) (v : VersionInfo)
    (hv : vm.kind = .version v) (hf : f v = true) (ha : am.kind = .verack) (hm : m.kind = .plain) :
    (run f [.localDisconnect, .remoteFrame vm, .remoteFrame am, .remoteFrame m, .localSend m]).2 =
      [.wrote .version, .emitDisconnected, .wrote .verack, .wrote .hsPing, .emitConnected, .deliver m] ++
        (if m.writable then [.wrote (.msg m), .sendResult none] else [.sendResult (some .io)]) ∧
    expected f [.localDisconnect, .remoteFrame vm, .remoteFrame am, .remoteFrame m, .localSend m] = none := by
  obtain ⟨k, t, w⟩ := vm
  obtain ⟨k2, t2, w2⟩ := am
  obtain ⟨k3, t3, w3⟩ := m
  simp only at hv ha hm
  subst hv ha hm
  cases w3 <;>
  simp [run, runFrom, step, init, disconnect, hf, completeHandshake, onFrameConnected, handleMessage, send,
    expected, afterHandshake, versionAccepted, nextRemote, Event.isLocal, acceptable, isVerack,
    hasLocalDisconnect, handshakePart]

/-- the handshake has a read timeout (the event `remoteSilence`; the correspondence paces its
    sessions far below it), the magic is four bytes, and the filter's service mask is not empty -/
theorem C12_tables_wf :
    0 < CG.Generated.C12_HANDSHAKE_TIMEOUT_S ∧ CG.Generated.C12_MAGIC.length = 4 ∧
    0 < CG.Generated.C12_SERVICE_MASK ∧ 0 < CG.Generated.C12_MIN_PROTO := by
  decide

def okFilter : VersionInfo → Bool := fun v => decide (v.proto ≥ 70001)
def ver : Msg := ⟨.version ⟨70015, 37, 100, []⟩, "version", true⟩
def ack : Msg := ⟨.verack, "verack", true⟩
def ping7 : Msg := ⟨.ping 7, "ping7", true⟩
def fee : Msg := ⟨.feefilter 1000, "fee", true⟩
def inv1 : Msg := ⟨.plain, "inv", true⟩
def sh : Msg := ⟨.sendheaders, "sendheaders", true⟩

/-- a clean session with a local send in the middle, ended by the remote closing, then a send -/
example :
    (run okFilter [.remoteFrame ver, .localSend inv1, .remoteFrame ack, .remoteFrame ping7, .localSend inv1,
        .remoteFrame fee, .remoteFrame sh, .remoteClose, .remoteFrame inv1, .localSend inv1]).2 =
      [.wrote .version, .sendResult (some .illegalState), .wrote .verack, .wrote .hsPing, .emitConnected,
       .wrote (.pong 7), .deliver ping7, .wrote (.msg inv1), .sendResult none, .deliver fee, .deliver sh,
       .emitDisconnected, .sendResult (some .illegalState)] := by decide

example : acceptable okFilter ver = true ∧ isVerack ack = true := by decide
example : remoteOnly [.remoteFrame ver, .localSend inv1, .remoteFrame ack, .remoteFrame ping7] =
    .remoteFrame ver :: .remoteFrame ack :: [ping7].map .remoteFrame := by decide
example : ∀ e ∈ [Event.remoteFrame ver, .localSend inv1, .remoteFrame ack, .remoteFrame ping7], benign e = true := by decide
/-- verack before version is a fault in the initial state; bad magic is one anywhere -/
example : remoteFault okFilter (stateAfter okFilter []) (.remoteFrame ack) = true := by decide
example : remoteFault okFilter (stateAfter okFilter [.remoteFrame ver, .remoteFrame ack]) (.remoteGarbage .badMagic) = true := by decide
example : handshakeCompletes okFilter [.localSend inv1, .remoteFrame ver, .localDisconnect, .remoteFrame ack] = true := by decide
example : inHandshake (stateAfter okFilter [.remoteFrame ver, .remoteFrame ack]) = false := by decide

end CG.Props.C12
