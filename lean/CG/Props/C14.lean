import CG.Proofs.Merkle
/-!
# C14 — Merkle roots and filtered-block proofs: validation complete and sound

Property theorems only.  Model: `CG.Model.Merkle` (mirrors `Block::merkle_root`, the root check of
`Block::validate`, and `MerkleBlock::validate/traverse/consume_flag/consume_hash`); specification:
`CG.Spec.Bip37` (level-by-level Merkle root; position-based BIP-37 extractor and builder).  The hash of a
64-byte concatenation is the parameter `H`: every theorem holds for whatever `sha256d` computes.
-/
namespace CG.Props.C14
open CG CG.Model.Merkle CG.Proofs.Merkle

/-- The queue reduction of `Block::merkle_root` computes exactly the level-by-level Bitcoin Merkle
    root (odd levels duplicate their last node), for every non-empty list of ids; it never panics
    and never hangs. -/
theorem C14_root_eq_spec (H : Bytes → Bytes) (txids : List Bytes) (hne : txids ≠ []) :
    ∃ r, Spec.Bip37.merkleRoot H txids = some r ∧ merkleRoot H txids = .ok r := by
  obtain ⟨r, hr, ho⟩ := outerLoop_eq H txids.length txids hne (by omega)
  exact ⟨r, hr, by rw [merkleRoot, ho]⟩

/-- `Block::validate`'s root check accepts exactly the Bitcoin Merkle root of the transaction ids:
    `ok` iff the header's root equals it; every other root (and the empty block) is `BadData`. -/
theorem C14_block_root_check (H : Bytes → Bytes) (txids : List Bytes) (headerRoot : Bytes) :
    blockRootCheck H txids headerRoot =
      if Spec.Bip37.merkleRoot H txids = some headerRoot then .ok () else .err "BadData" := by
  unfold blockRootCheck
  by_cases hne : txids = []
  · subst hne
    simp [Spec.Bip37.merkleRoot]
  · obtain ⟨r, hr, hm⟩ := C14_root_eq_spec H txids hne
    have : txids.isEmpty = false := by simp [hne]
    rw [this, hm, hr]
    by_cases h : r = headerRoot <;> simp [h]

/-- The level-by-level root is the root by tree position (Core's `CalcHash` at `(height, 0)`): the two
    readings of "the Bitcoin Merkle root" coincide. -/
theorem C14_root_by_position (H : Bytes → Bytes) (txids : List Bytes) (hne : txids ≠ []) :
    Spec.Bip37.merkleRoot H txids = some (Spec.Bip37.rootByPosition H txids) :=
  merkleRoot_eq_rootByPosition H txids hne

/-- small cases written out: one id is its own root; two ids hash together; three ids duplicate the last -/
theorem C14_root_small (H : Bytes → Bytes) (a b c : Bytes) :
    merkleRoot H [a] = .ok a ∧ merkleRoot H [a, b] = .ok (H (a ++ b)) ∧
    merkleRoot H [a, b, c] = .ok (H (H (a ++ b) ++ H (c ++ c))) :=
  ⟨rfl, rfl, rfl⟩

/-- The integer depth computation `32 - (n-1).leading_zeros()` is `⌈log2 n⌉` — the least `d` with
    `n ≤ 2^d` — and equals the height Core's width loop finds, for all `1 ≤ n < 2^32`. -/
theorem C14_depth_exact (n : Nat) (h1 : 1 ≤ n) (h32 : n < 2 ^ 32) :
    n ≤ 2 ^ treeDepthOf n ∧ (∀ d, d < treeDepthOf n → 2 ^ d < n) ∧
    treeDepthOf n = Spec.Bip37.height n ∧ treeDepthOf n ≤ 32 := by
  have hc := treeDepthOf_isClog n h1 h32
  refine ⟨hc.1, hc.2, hc.unique (height_isClog n), ?_⟩
  unfold treeDepthOf
  omega

/-- **The counter-based traversal is the position-based BIP-37 extractor.**  For every declared count
    (`0` included), every flag byte string, every hash list and every header root,
    `MerkleBlock::validate` returns exactly what the reference extractor returns: the same matched
    ids in the same order, or `BadData` where the reference rejects. -/
theorem C14_traverse_eq_extract (H : Bytes → Bytes) (n : Nat) (h32 : n < 2 ^ 32)
    (flags : Bytes) (hashes : List Bytes) (root : Bytes) :
    validate H n flags hashes root =
      match Spec.Bip37.extract H n flags hashes root with
      | some m => .ok m
      | none => .err "BadData" := by
  apply validateWith_eq_extract
  intro h1
  have := C14_depth_exact n h1 h32
  exact ⟨treeDepthOf_isClog n h1 h32, by omega⟩

/-- the same for any depth function that yields `⌈log2 n⌉` (the theorem does not depend on how the
    depth is computed, only on its value) -/
theorem C14_traverse_eq_extract_any_depth (depthOf : Nat → Nat) (H : Bytes → Bytes) (n : Nat)
    (hdep : 1 ≤ n → (n ≤ 2 ^ depthOf n ∧ ∀ d, d < depthOf n → 2 ^ d < n) ∧ depthOf n ≤ 62)
    (flags : Bytes) (hashes : List Bytes) (root : Bytes) :
    validateWith depthOf H n flags hashes root =
      match Spec.Bip37.extract H n flags hashes root with
      | some m => .ok m
      | none => .err "BadData" :=
  validateWith_eq_extract depthOf H n flags hashes root hdep

/-- Soundness: whatever is accepted is accepted by the reference extractor with the same result —
    so an object the reference rejects, or for which it returns a different match list (an altered
    hash, flag bit or count, missing or surplus data), is not accepted with that result. -/
theorem C14_sound (H : Bytes → Bytes) (n : Nat) (h32 : n < 2 ^ 32)
    (flags : Bytes) (hashes : List Bytes) (root : Bytes) (m : List Bytes)
    (h : validate H n flags hashes root = .ok m) :
    Spec.Bip37.extract H n flags hashes root = some m := by
  rw [C14_traverse_eq_extract H n h32] at h
  split at h
  · cases h
    assumption
  · cases h

/-- Completeness: whatever the reference extractor accepts is accepted, with the same result. -/
theorem C14_complete (H : Bytes → Bytes) (n : Nat) (h32 : n < 2 ^ 32)
    (flags : Bytes) (hashes : List Bytes) (root : Bytes) (m : List Bytes)
    (h : Spec.Bip37.extract H n flags hashes root = some m) :
    validate H n flags hashes root = .ok m := by
  rw [C14_traverse_eq_extract H n h32, h]

/-- **Built proofs are accepted.**  For any block (any count ≥ 1) and any matched subset, the partial
    merkle tree object produced by the standard BIP-37 construction is accepted against the block's
    Merkle root and returns exactly the matched ids in block order — provided no two sibling
    subtrees of the block's tree hash equal (with equal siblings BIP-37 itself declares the object
    invalid; for distinct transaction ids that would be a SHA-256d collision). -/
theorem C14_built_proof_accepted (H : Bytes → Bytes) (txids : List Bytes) (matched : List Bool)
    (hne : txids ≠ []) (h32 : txids.length < 2 ^ 32) (hm : matched.length = txids.length)
    (hsib : ∀ h p, 2 * p + 1 < Spec.Bip37.width txids.length h →
      Spec.Bip37.calcHash H txids h (2 * p) ≠ Spec.Bip37.calcHash H txids h (2 * p + 1)) :
    ∃ root, Spec.Bip37.merkleRoot H txids = some root ∧
      validate H txids.length (Spec.Bip37.build H txids matched).1 (Spec.Bip37.build H txids matched).2 root
        = .ok (Spec.Bip37.matchedIds txids matched) := by
  refine ⟨_, C14_root_by_position H txids hne, ?_⟩
  exact C14_complete H _ h32 _ _ _ _ (built_extract_top H txids matched hne hm hsib)

/-- `MerkleBlock::validate` WITHOUT its third guard (`preorder_node < total_nodes` → "Not all nodes consumed") -/
def validateNoNodeGuard (H : Bytes → Bytes) (n : Nat) (flags : Bytes) (hashes : List Bytes) (root : Bytes) :
    Outcome (List Bytes) :=
  if n = 0 then .err "BadData"
  else
    match traverse H flags hashes (treeDepthOf n) (totalNodes n) (treeDepthOf n + 1) 0 ⟨0, 0, 0, []⟩ with
    | .err e => .err e
    | .panic s => .panic s
    | .ok (r, st) =>
      if r ≠ root then .err "BadData"
      else if st.hashes < hashes.length then .err "BadData"
      else if (st.bits + 7) / 8 < flags.length then .err "BadData"
      else .ok st.matched

/-- **The "Not all nodes consumed" guard can never fire**: whenever the traversal of the root returns at
    all, its pre-order counter has reached `total_nodes` — for every declared count, flag string and hash
    list.  (The correspondence never reaches that line either; this says no input can.) -/
theorem C14_node_counter_reaches_total (H : Bytes → Bytes) (n : Nat) (h1 : 1 ≤ n) (h32 : n < 2 ^ 32)
    (flags : Bytes) (hashes : List Bytes) (r : Bytes) (st : St)
    (ht : traverse H flags hashes (treeDepthOf n) (totalNodes n) (treeDepthOf n + 1) 0 ⟨0, 0, 0, []⟩ = .ok (r, st)) :
    totalNodes n ≤ st.node := by
  have := C14_depth_exact n h1 h32
  exact root_counter_reaches_total H h1 flags hashes (treeDepthOf_isClog n h1 h32) (by omega) r st ht

/-- hence the function is equal to the one without that guard -/
theorem C14_node_guard_is_dead (H : Bytes → Bytes) (n : Nat) (h32 : n < 2 ^ 32)
    (flags : Bytes) (hashes : List Bytes) (root : Bytes) :
    validate H n flags hashes root = validateNoNodeGuard H n flags hashes root := by
  unfold validate validateWith validateNoNodeGuard
  by_cases h0 : n = 0
  · simp [h0]
  · rw [if_neg h0, if_neg h0]
    dsimp only
    cases ht : traverse H flags hashes (treeDepthOf n) (totalNodes n) (treeDepthOf n + 1) 0 ⟨0, 0, 0, []⟩ with
    | err e => rfl
    | panic s => rfl
    | ok v =>
      obtain ⟨r, st⟩ := v
      have hge := C14_node_counter_reaches_total H n (by omega) h32 flags hashes r st ht
      have : ¬ st.node < totalNodes n := by omega
      simp [this]

/-- No input panics: not the two index expressions, not `tree_depth - depth`, not the shift, not the
    counter addition (64-bit `usize`), not the recursion budget `tree_depth + 1`. -/
theorem C14_no_panic (H : Bytes → Bytes) (n : Nat) (h32 : n < 2 ^ 32)
    (flags : Bytes) (hashes : List Bytes) (root : Bytes) (s : String) :
    validate H n flags hashes root ≠ .panic s := by
  rw [C14_traverse_eq_extract H n h32]
  cases Spec.Bip37.extract H n flags hashes root <;> simp

/-- a declared count of zero is an error (not a panic) -/
theorem C14_zero_count (H : Bytes → Bytes) (flags : Bytes) (hashes : List Bytes) (root : Bytes) :
    validate H 0 flags hashes root = .err "BadData" := rfl

/-! Non-vacuity and the defect of the pinned tree.  A toy "hash" (`H x = x`, so node hashes are concatenations) makes the examples decidable. -/

/-- three transactions `[1] [2] [3]`, the third matched: flags `1,0,1,1` = 0x0d, hashes `[1,2]`, `[3]` -/
example : validate id 3 [0x0d] [[1, 2], [3]] [1, 2, 3, 3] = .ok [[3]] := by decide
example : Spec.Bip37.extract id 3 [0x0d] [[1, 2], [3]] [1, 2, 3, 3] = some [[3]] := by decide
/-- surplus hash / surplus flag byte / wrong count / wrong root are rejected -/
example : validate id 3 [0x0d] [[1, 2], [3], [4]] [1, 2, 3, 3] = .err "BadData" := by decide
example : validate id 3 [0x0d, 0] [[1, 2], [3]] [1, 2, 3, 3] = .err "BadData" := by decide
example : validate id 4 [0x0d] [[1, 2], [3]] [1, 2, 3, 3] = .err "BadData" := by decide
example : validate id 3 [0x0d] [[1, 2], [3]] [1, 2, 3, 4] = .err "BadData" := by decide
/-- equal siblings (CVE-2012-2459 shape) are rejected by both -/
example : validate id 4 [0x1d] [[1, 2], [3], [3]] [1, 2, 3, 3] = .err "BadData" := by decide
example : treeDepthOf 1 = 0 ∧ treeDepthOf 2 = 1 ∧ treeDepthOf 5 = 3 ∧ treeDepthOf 2097153 = 22 ∧
    treeDepthOf (2 ^ 31 + 1) = 32 ∧ treeDepthOf (2 ^ 32 - 1) = 32 := by decide

/-- the builder on the same example: ids `[1] [2] [3]`, third matched -/
example : Spec.Bip37.build id [[1], [2], [3]] [false, false, true] = ([0x0d], [[1, 2], [3]]) := by decide +kernel
example : Spec.Bip37.matchedIds [[1], [2], [3]] [false, false, true] = [[3]] := by decide

/-- The defect of the pinned tree: the depth came from `(n as f32).log(2.).ceil()`, which is one too
    small for counts just above `2^k`, `k ≥ 21`.  With a depth one too small a valid proof is
    misread — the full statement fails for such a depth function (witness: 3 transactions read with
    depth 1 instead of 2; the reference accepts, the traversal rejects). -/
theorem C14_short_depth_misreads :
    Spec.Bip37.extract id 3 [0x0d] [[1, 2], [3]] [1, 2, 3, 3] = some [[3]] ∧
    validateWith (fun n => treeDepthOf n - 1) id 3 [0x0d] [[1, 2], [3]] [1, 2, 3, 3] = .err "BadData" := by
  decide

end CG.Props.C14
