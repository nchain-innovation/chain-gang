import Mathlib.Algebra.Group.Defs
import CG.Proofs.Bip32
/-!
# C08 — BIP-32 derivation matches the standard; public and private paths commute

Model: `CG.Model.Bip32` (`/repo/src/wallet/extended_key.rs`); `repaired` = the tree with the three
C08 patches of /verif/proposed_fixes, `pinned` = the tree as found.  Spec: `CG.Spec.Bip32` (BIP-32 text).
HMAC-SHA512, HASH160 and the secp256k1 group are parameters (`Ops`): every theorem holds for whatever
those crates compute, given only the facts collected in `OpsOK` (output lengths, the public key of a
scalar in `(0, n)` is not the identity, SEC1 parse inverts SEC1 serialise) and — for the commutation —
the group laws `(a+b)·G = a·G + b·G`, `n·G = 0`.

Two events of probability ≈ 2⁻²⁵⁶ per step separate the code from the letter of the BIP and appear as
explicit side conditions (`PrivEdge`, `PubEdge`, `NoEdge`): `I_L = 0` (the code rejects it, the BIP
accepts it) and `k_i = 0` (the BIP rejects it, the code returns the zero key).  They cannot be reached
without inverting HMAC-SHA512; `C08_eq_spec_full_false` shows (with an artificial HMAC) that the
side condition cannot be dropped.
-/
namespace CG.Props.C08
open CG CG.Model.Bip32 CG.Proofs.Bip32
open CG.Spec.Bip32 (Params XKey KeyMat serialize childPriv childPub toPublic ckdPriv ckdPub neuter derive Denotes pubPoint)

/-- the group laws in the form used by the proofs, from Mathlib's additive-monoid laws: `G` of order
    exactly `n` in any additive (commutative) group / monoid `E` -/
theorem groupLaws_of_addMonoid {E : Type} [AddMonoid E] (G : E)
    (hn : Spec.Bip32.n • G = 0) (hord : ∀ m : Nat, 0 < m → m < Spec.Bip32.n → m • G ≠ 0)
    (P : Params E) (hpoint : ∀ a, P.point a = a • G) (hadd : ∀ x y, P.add x y = x + y)
    (hinf : ∀ x, P.isInfinity x = true ↔ x = 0) : GroupLaws P where
  point_add := by intro a b; rw [hpoint, hpoint, hpoint, hadd, add_nsmul]
  point_n := by rw [hpoint, hpoint, hn, zero_nsmul]
  inf_iff := by
    intro m hm
    rw [hinf, hpoint]
    constructor
    · intro h
      rcases Nat.eq_zero_or_pos m with h0 | h0
      · exact h0
      · exact absurd h (hord m h0 hm)
    · rintro rfl
      exact zero_nsmul G

/-- **N(CKDpriv(k, i)) = CKDpub(N(k), i)** for every parent `(k, c)`, every non-hardened `i`, every
    HMAC and point serialisation, in any additive commutative group in which `G` has order `n`
    (`add_nsmul` is `(a + b) • G = a • G + b • G`).  Equality of `Option`s: the two sides are invalid
    together. -/
theorem C08_commute {E : Type} [AddCommGroup E] (G : E)
    (hn : Spec.Bip32.n • G = 0) (hord : ∀ m : Nat, 0 < m → m < Spec.Bip32.n → m • G ≠ 0)
    (P : Params E) (hpoint : ∀ a, P.point a = a • G) (hadd : ∀ x y, P.add x y = x + y)
    (hinf : ∀ x, P.isInfinity x = true ↔ x = 0)
    (k : Nat) (c : Bytes) (i : Nat) (hi : i < 2 ^ 31) :
    (ckdPriv P k c i).map (fun r => neuter P r.1 r.2) = ckdPub P (P.point k) c i :=
  ckd_commute P (groupLaws_of_addMonoid G hn hord P hpoint hadd hinf) k c i
    (by simpa [Spec.Bip32.hardened] using hi)

/-- the same for extended keys with their position in the tree (depth, parent fingerprint, child
    number, chain code all agree) -/
theorem C08_commute_tree {P : Type} (E : Params P) (L : GroupLaws E) (x : XKey P) (k : Nat) (hk : x.key = .priv k)
    (i : Nat) (hi : i < 2 ^ 31) :
    (childPriv E x i).map (toPublic E) = childPub E (toPublic E x) i :=
  child_commute E L x k hk i (by simpa [Spec.Bip32.hardened] using hi)

/-- … and on the model of the repaired code: `derive_private_key(i)` then `extended_public_key()`
    returns the same 78 bytes as `extended_public_key()` then `derive_public_key(i)`; if one side is an
    error so is the other; neither panics. -/
theorem C08_commute_model {P : Type} (o : Ops P) (ok : OpsOK o) (L : GroupLaws (toParams o)) (x : XKey P) (hx : XWF o x)
    (k : Nat) (hk : x.key = .priv k) (i : Nat) (hi : i < 2 ^ 31) (hne : ¬ PrivEdge (toParams o) k x.chain i) :
    (derivePrivateKey o (serialize (toParams o) x) i).bind (extendedPublicKey o) =
      (extendedPublicKey o (serialize (toParams o) x)).bind (fun xp => derivePublicKey true o xp i) ∨
    (∃ e e', (derivePrivateKey o (serialize (toParams o) x) i).bind (extendedPublicKey o) = .err e ∧
      (extendedPublicKey o (serialize (toParams o) x)).bind (fun xp => derivePublicKey true o xp i) = .err e') := by
  have hh : Spec.Bip32.hardened i = false := by simpa [Spec.Bip32.hardened] using hi
  have hlt : i < 2 ^ 32 := by omega
  have hI : Spec.Bip32.privI (toParams o) k x.chain i = Spec.Bip32.pubI (toParams o) ((toParams o).point k) x.chain i := by
    simp [Spec.Bip32.privI, Spec.Bip32.pubI, hh]
  have hpp : pubPoint (toParams o) (toPublic (toParams o) x) = (toParams o).point k := by simp [toPublic, pubPoint, hk]
  have hpe : ¬ PubEdge (toParams o) (pubPoint (toParams o) (toPublic (toParams o) x)) (toPublic (toParams o) x).chain i := by
    intro h
    rw [PubEdge, hpp] at h
    exact hne (.inl (hI ▸ h))
  have h1 := priv_step o ok x hx k hk i hne
  have h2 := pub_step o ok _ (toPublic_wf o ok x hx) i hpe
  rw [toPublic_toPublic, ← child_commute _ L x k hk i hh] at h2
  rw [extendedPublicKey_serialize o ok x hx]
  simp only [Outcome.bind]
  cases hc : childPriv (toParams o) x i with
  | none =>
    rw [hc] at h1 h2
    obtain ⟨e, he⟩ := okOf_none _ h1 (derivePrivateKey_not_panic o ok _ _)
    obtain ⟨e', he'⟩ := okOf_none _ h2 (derivePublicKey_not_panic o true ok _ _)
    right
    exact ⟨e, e', by rw [he], he'⟩
  | some y =>
    rw [hc] at h1 h2
    have hy := (childPriv_wf o ok x y i hlt hc).1
    left
    rw [okOf_some _ _ h1, okOf_some _ _ h2]
    exact extendedPublicKey_serialize o ok y hy

/-- `derive_private_key` on the serialization of a private extended key returns the serialization of
    the BIP-32 child (`CKDpriv`, depth + 1, fingerprint of the parent, child number, chain code) or an
    error exactly when BIP-32 says the child is invalid / does not exist; it never panics. -/
theorem C08_priv_eq_spec {P : Type} (o : Ops P) (ok : OpsOK o) (x : XKey P) (hx : XWF o x) (k : Nat)
    (hk : x.key = .priv k) (i : Nat) (hne : ¬ PrivEdge (toParams o) k x.chain i) :
    okOf (derivePrivateKey o (serialize (toParams o) x) i) = (childPriv (toParams o) x i).map (serialize (toParams o)) ∧
    ∀ st, derivePrivateKey o (serialize (toParams o) x) i ≠ .panic st :=
  ⟨priv_step o ok x hx k hk i hne, derivePrivateKey_not_panic o ok _ _⟩

/-- the REPAIRED `derive_public_key` equals `CKDpub` of the key's public form (for a private parent
    the code first takes its public key), with the same tree fields. -/
theorem C08_pub_eq_spec {P : Type} (o : Ops P) (ok : OpsOK o) (x : XKey P) (hx : XWF o x) (i : Nat)
    (hne : ¬ PubEdge (toParams o) (pubPoint (toParams o) x) x.chain i) :
    okOf (derivePublicKey true o (serialize (toParams o) x) i) =
      (childPub (toParams o) (toPublic (toParams o) x) i).map (serialize (toParams o)) ∧
    ∀ st, derivePublicKey true o (serialize (toParams o) x) i ≠ .panic st :=
  ⟨pub_step o ok x hx i hne, derivePublicKey_not_panic o true ok _ _⟩

/-- `extended_public_key` is `N`, keeping network, depth, fingerprint, child number and chain code -/
theorem C08_xpub_eq_spec {P : Type} (o : Ops P) (ok : OpsOK o) (x : XKey P) (hx : XWF o x) :
    extendedPublicKey o (serialize (toParams o) x) = .ok (serialize (toParams o) (toPublic (toParams o) x)) :=
  extendedPublicKey_serialize o ok x hx

/-- the 78-byte layout: every accessor reads back the field the constructor wrote -/
theorem C08_layout (v d idx : Nat) (fp cc kd : Bytes) (hfp : fp.length = 4) (hcc : cc.length = 32) (hkd : kd.length = 33) :
    (lay v d fp idx cc kd).length = 78 ∧ version (lay v d fp idx cc kd) = v % 2 ^ 32 ∧
    depth (lay v d fp idx cc kd) = d % 256 ∧ parentFingerprint (lay v d fp idx cc kd) = fp ∧
    index (lay v d fp idx cc kd) = idx % 2 ^ 32 ∧ chainCode (lay v d fp idx cc kd) = cc ∧
    keyData (lay v d fp idx cc kd) = kd :=
  ⟨lay_length hfp hcc hkd, version_lay, depth_lay, parentFingerprint_lay hfp, index_lay hfp, chainCode_lay hfp hcc,
   keyData_lay hfp hcc⟩

/-- the repaired parser accepts exactly `m|M (/ digits+ ['|h|H]?)*` with an unmarked number `< 2^32`
    and a marked number `< 2^31`, and maps each component to the right child number -/
theorem C08_parse_path (s : List Char) (kt : KeyType) (idxs : List Nat) :
    parsePath repaired s = .ok (kt, idxs) ↔ Denotes s (decide (kt = .priv)) idxs := by
  rw [parsePath_ok]
  constructor
  · rintro ⟨rest, hsp, hr⟩
    obtain ⟨rfl, -, -⟩ := splitOn_inv '/' s _ rest hsp
    obtain ⟨cs, hwf, rfl, rfl⟩ := (parseParts_ok_iff rest idxs).mp hr
    refine ⟨if kt = .priv then 'm' else 'M', cs, ?_, hwf, ?_, rfl⟩
    · cases kt <;> simp
    · simp [Spec.Bip32.pathText, List.flatMap_map]
  · rintro ⟨pfx, cs, hpfx, hwf, rfl, rfl⟩
    refine ⟨cs.map Spec.Bip32.Comp.text, ?_, (parseParts_ok_iff _ _).mpr ⟨cs, hwf, rfl, rfl⟩⟩
    have hp : pfx = if kt = .priv then 'm' else 'M' := by cases kt <;> simpa using hpfx
    have := splitOn_join '/' (cs.map Spec.Bip32.Comp.text) [pfx] (by rw [hp]; split <;> decide)
      (by intro q hq; obtain ⟨c, hc, rfl⟩ := List.mem_map.mp hq; exact slash_not_mem_text c (hwf c hc))
    simpa [Spec.Bip32.pathText, List.flatMap_map, hp] using this

/-- `derive_extended_key` = the fold of `CKDpriv` (for `m/…`) or of `CKDpub` from `N(master)` (for
    `M/…`) over the parsed child numbers — any depth, any master that has a serialization. -/
theorem C08_path_eq_spec {P : Type} (o : Ops P) (ok : OpsOK o) (x : XKey P) (hx : XWF o x) (path : List Char)
    (kt : KeyType) (idxs : List Nat) (hp : parsePath repaired path = .ok (kt, idxs))
    (hne : NoEdge (toParams o) x kt idxs) :
    okOf (deriveExtendedKey repaired o (serialize (toParams o) x) path) =
      (derive (toParams o) x (decide (kt = .priv)) idxs).map (serialize (toParams o)) := by
  obtain ⟨rest, hsp, hl⟩ := (parsePath_ok repaired path kt idxs).mp hp
  unfold deriveExtendedKey
  rw [hsp]
  cases kt with
  | priv =>
    simp only [pathStart, ↓reduceIte, keyType_serialize, derive, decide_true]
    cases hk : x.key with
    | pub K => simp [XKey.isPrivate, hk, okOf]
    | priv k =>
      simp only [XKey.isPrivate, hk, ↓reduceIte]
      exact loop_priv o ok rest idxs x hl hx ⟨k, hk⟩ hne
  | pub =>
    simp only [pathStart, reduceCtorEq, ↓reduceIte, List.cons.injEq, Char.reduceEq, and_true, ne_eq, not_true_eq_false,
      repaired, Outcome.map, extendedPublicKey_serialize o ok x hx, derive, decide_false, Bool.false_eq_true]
    exact loop_pub o ok rest idxs _ hl (toPublic_wf o ok x hx) ⟨_, rfl⟩ hne

/-- hardened derivation from a public key, derivation past depth 255, private derivation from a public
    key and malformed paths are errors; nothing ever panics — for both variants of the code, every
    master (any bytes) and every path text. -/
theorem C08_errors {P : Type} (o : Ops P) (ok : OpsOK o) (v : Variant) :
    (∀ a k i, i ≥ 2 ^ 31 → derivePublicKey a o k i = .err "BadArgument") ∧
    (∀ master path idxs, parsePath v path = .ok (.pub, idxs) → (∃ i ∈ idxs, i ≥ 2 ^ 31) →
        ∃ e, deriveExtendedKey v o master path = .err e) ∧
    (∀ k i, keyType k = .ok .pub → derivePrivateKey o k i = .err "BadData") ∧
    (∀ a k i, depth k = 255 → (∃ e, derivePrivateKey o k i = .err e) ∧ (∃ e, derivePublicKey a o k i = .err e)) ∧
    (∀ master path e, parsePath v path = .err e → ∃ e', deriveExtendedKey v o master path = .err e') ∧
    (∀ master path st, deriveExtendedKey v o master path ≠ .panic st) ∧
    (∀ a k i st, derivePrivateKey o k i ≠ .panic st ∧ derivePublicKey a o k i ≠ .panic st ∧ extendedPublicKey o k ≠ .panic st) := by
  refine ⟨?_, ?_, ?_, ?_, ?_, ?_, ?_⟩
  · exact fun a k i hi => derivePublicKey_hardened o a k i (by simpa [HARDENED_KEY] using hi)
  · rintro master path idxs hp ⟨i, hi, hge⟩
    refine err_of_not_ok _ (fun r hr => ?_) (deriveExtendedKey_not_panic o v ok master path)
    obtain ⟨kt, idxs', hp', hlt⟩ := deriveExtendedKey_ok o v master path r hr
    obtain ⟨rfl, rfl⟩ := Prod.mk.inj (Outcome.ok.inj (hp.symm.trans hp'))
    exact absurd (hlt rfl i hi) (by omega)
  · exact fun k i h => derivePrivateKey_public o k i h
  · exact fun a k i h => ⟨derivePrivateKey_depth255 o k i h, derivePublicKey_depth255 o a k i h⟩
  · intro master path e h
    refine err_of_not_ok _ (fun r hr => ?_) (deriveExtendedKey_not_panic o v ok master path)
    obtain ⟨kt, idxs, hp, -⟩ := deriveExtendedKey_ok o v master path r hr
    rw [h] at hp
    cases hp
  · exact fun master path st => deriveExtendedKey_not_panic o v ok master path st
  · exact fun a k i st => ⟨derivePrivateKey_not_panic o ok k i st, derivePublicKey_not_panic o a ok k i st,
      extendedPublicKey_not_panic o ok k st⟩

/-- the statement one would like: `is_private_key_valid k ↔ 0 < k < n`.  FALSE of the code — see below. -/
def C08_key_range_full : Prop :=
  ∀ key : Bytes, isPrivateKeyValid key = true ↔ (key.length = 32 ∧ 0 < beNat key ∧ beNat key < n)

/-- witness: `ff…ff 00…00` (16 + 16 bytes) is `≥ n` but accepted, because the first loop looks for ANY
    position with `key[i] < ORDER[i]` without requiring the earlier bytes to be equal.  Not reachable
    through derivation (needs `I_L ≥ n`, probability 2⁻¹²⁸) and harmless there: `SecretKey::from_slice`
    rejects the value right after (`C08_key_range`). -/
theorem C08_key_range_full_false : ¬ C08_key_range_full := by
  intro h
  have := (h (List.replicate 16 0xff ++ List.replicate 16 0x00)).mp (by decide)
  exact absurd this.2.2 (by decide)

/-- what does hold of `is_private_key_valid` alone: no key in range is rejected; an accepted key has 32
    bytes and is non-zero -/
theorem C08_key_range_partial (key : Bytes) :
    (key.length = 32 → 0 < beNat key → beNat key < n → isPrivateKeyValid key = true) ∧
    (isPrivateKeyValid key = true → key.length = 32 ∧ 0 < beNat key) :=
  ⟨isPrivateKeyValid_of_range key, isPrivateKeyValid_nonzero key⟩

/-- the check the derivation functions actually perform on `I_L` (`is_private_key_valid` followed by
    `SecretKey::from_slice`) is exactly `0 < I_L < n`, and yields that scalar -/
theorem C08_key_range (I : Bytes) (hI : I.length = 64) (v : Nat) :
    offsetScalar I = .ok v ↔ (0 < beNat (I.take 32) ∧ beNat (I.take 32) < n ∧ v = beNat (I.take 32)) :=
  offsetScalar_ok_iff I hI v

/-- (a) the pinned `derive_public_key` adds the offset point to itself: with parent `K = 5·G` and
    `I_L = 1` it returns `2·G` where CKDpub is `6·G` (the repaired model returns `6·G`). -/
theorem C08_pinned_ckdpub_differs :
    keyData <$> okOf (derivePublicKey false (toyOps 1) (serialize (toParams (toyOps 1)) (toyKey (.pub (toyPoint 5)))) 0) = some (2 :: natBE 32 2) ∧
    keyData <$> (childPub (toParams (toyOps 1)) (toyKey (.pub (toyPoint 5))) 0).map (serialize (toParams (toyOps 1))) = some (2 :: natBE 32 6) ∧
    keyData <$> okOf (derivePublicKey true (toyOps 1) (serialize (toParams (toyOps 1)) (toyKey (.pub (toyPoint 5)))) 0) = some (2 :: natBE 32 6) := by
  decide

/-- (b) for every master and all parameters the pinned `derive_extended_key(master, "M")` returns the
    master unchanged — for a private master, its private serialization, which is not `N(master)` -/
theorem C08_pinned_M_returns_private {P : Type} (o : Ops P) (x : XKey P) (k : Nat) (hk : x.key = .priv k) :
    deriveExtendedKey pinned o (serialize (toParams o) x) ['M'] = .ok (serialize (toParams o) x) ∧
    serialize (toParams o) x ≠ serialize (toParams o) (toPublic (toParams o) x) := by
  refine ⟨by simp [deriveExtendedKey, splitOn, pathStart, pinned, deriveLoop], ?_⟩
  intro h
  have hv := congrArg version h
  rw [serialize_eq_lay, serialize_eq_lay, version_lay, version_lay] at hv
  have h1 : x.isPrivate = true := by simp [XKey.isPrivate, hk]
  have h2 : (toPublic (toParams o) x).isPrivate = false := by simp [XKey.isPrivate, toPublic]
  rw [h1, h2] at hv
  have hn : (toPublic (toParams o) x).net = x.net := rfl
  rw [hn] at hv
  -- on either network the private and the public version bytes differ
  cases hnet : x.net <;> rw [hnet] at hv <;> simp [Spec.Bip32.versionBytes] at hv

/-- (c) the pinned parser accepts malformed components that the repaired one rejects -/
theorem C08_pinned_parser_lenient :
    parsePath pinned "m/1''".toList = .ok (.priv, [2147483649]) ∧
    parsePath pinned "m/1Hh'".toList = .ok (.priv, [2147483649]) ∧
    parsePath pinned "m/+1".toList = .ok (.priv, [1]) ∧
    (∃ e, parsePath repaired "m/1''".toList = .err e) ∧ (∃ e, parsePath repaired "m/1Hh'".toList = .err e) ∧
    (∃ e, parsePath repaired "m/+1".toList = .err e) := by
  refine ⟨by decide, by decide, by decide, ⟨"BadArgument", by decide⟩, ⟨"BadArgument", by decide⟩,
    ⟨"BadArgument", by decide⟩⟩

/-- model = BIP-32 WITHOUT the side condition is false: with an HMAC whose `I_L` is 0 the code
    rejects (`Invalid key. Try next index.`) a child that BIP-32 defines (`k_i = k_par`) -/
def C08_eq_spec_full : Prop :=
  ∀ (o : Ops (Fin n)) (_ : OpsOK o) (x : XKey (Fin n)) (_ : XWF o x) (k : Nat) (_ : x.key = .priv k) (i : Nat),
    okOf (derivePrivateKey o (serialize (toParams o) x) i) = (childPriv (toParams o) x i).map (serialize (toParams o))

/-- the side condition of the step and path theorems cannot be dropped: `C08_eq_spec_full` is false
    (artificial HMAC with `I_L = 0`; no such input is known for HMAC-SHA512) -/
theorem C08_eq_spec_full_false : ¬ C08_eq_spec_full := by
  intro h
  have := h (toyOps 0) (toyOps_ok 0) (toyKey (.priv 5))
    (toyKey_wf 0 _ (by intro k hk; cases hk; decide) (by intro K hK; cases hK)) 5 rfl 0
  exact absurd this (by decide)

-- non-vacuity: the hypotheses of the step / path / commutation theorems hold for the toy parameters
example : ¬ PrivEdge (toParams (toyOps 1)) 5 (toyKey (.priv 5)).chain 0 := by unfold PrivEdge; decide
example : ¬ PubEdge (toParams (toyOps 1)) (toyPoint 5) (toyKey (.pub (toyPoint 5))).chain 0 := by unfold PubEdge; decide
example : NoEdge (toParams (toyOps 1)) (toyKey (.priv 5)) .priv [] := trivial
example : (deriveExtendedKey repaired (toyOps 1) (serialize (toParams (toyOps 1)) (toyKey (.priv 5))) "m/0/1'".toList).isOk = true := by
  decide
example : (deriveExtendedKey repaired (toyOps 1) (serialize (toParams (toyOps 1)) (toyKey (.priv 5))) "M/0/1".toList).isOk = true := by
  decide
example : Denotes "m/0/1'/2h/3H".toList true [0, 2147483649, 2147483650, 2147483651] :=
  (C08_parse_path _ .priv _).mp (by decide)
example : ∃ e, deriveExtendedKey repaired (toyOps 1) (serialize (toParams (toyOps 1)) (toyKey (.pub (toyPoint 5)))) "M/0'".toList = .err e :=
  ⟨"BadArgument", by decide⟩
-- the commutation square on the toy group, computed: both sides are the same 78 bytes
example : (derivePrivateKey (toyOps 1) (serialize (toParams (toyOps 1)) (toyKey (.priv 5))) 7).bind (extendedPublicKey (toyOps 1)) =
    (extendedPublicKey (toyOps 1) (serialize (toParams (toyOps 1)) (toyKey (.priv 5)))).bind
      (fun xp => derivePublicKey true (toyOps 1) xp 7) := by decide

end CG.Props.C08
