import CG.Proofs.Writer
import CG.Generated.WriteSites
/-!
# C15 — Serialisation is correct for writers that accept partial writes

Property theorems only.  Model: `CG.Model.Writer` — a destination with a per-call acceptance
schedule (`Dest`; entry `k ≥ 1` = at most `k` bytes accepted by that call, entry `0` = the call
reports `Interrupted`, exhausted schedule = `tail`), ONE raw call (`Dest.write`), the standard
library's `write_all` loop (`writeAll`), and serialisers as lists of write operations
(`WOp.all b` = `write_all(b)?`, `WOp.raw b` = a bare `write(b)` whose count is dropped).

That every operation of every chain-gang serialiser is an `all` is the hypothesis
`∀ op ∈ ops, op.isAll` of the theorems.  The correspondence run supports it (each run replays every
call trace through `runOps` and compares with the real code on the same schedule), and the last
section reads it off the table of write sites scanned from the source
(`C15_source_has_no_bare_write`).
-/
namespace CG.Props.C15
open CG CG.Model.Writer CG.Proofs.Writer

/-- **`write_all` delivers.**  For every schedule — any acceptance limits ≥ 1, fixed or varying per
    call, and any finite number of interrupted calls at any positions — and whatever the destination
    already holds, `write_all b` returns `Ok(())` and the destination has received exactly `b`,
    appended.  (A schedule is a finite list; afterwards the destination accepts requests in full.) -/
theorem C15_write_all_delivers (sched : List Nat) (held : Bytes) (log : List Nat) (b : Bytes) :
    ∃ d', writeAll { sched := sched, tail := .accept, buf := held, log := log } b = (.ok (), d') ∧
      d'.buf = held ++ b := by
  cases h : writeAll { sched := sched, tail := .accept, buf := held, log := log } b with
  | mk r d' =>
    have s := writeAll_spec _ b r d' h
    have hr : r = .ok () := s.accept_ok rfl
    subst hr
    exact ⟨d', rfl, s.ok_all rfl⟩

/-- **No success with bytes dropped, no panic, no hang** — on ANY destination, including one that
    fails hard (`BrokenPipe`) or returns `Ok(0)` for ever once its schedule is used up:
    `write_all` never runs out of fuel (the loop terminates within `sched.length + 1` iterations),
    what arrived is always a prefix of the request, and `Ok(())` implies the whole request arrived. -/
theorem C15_write_all_never_silently_drops (d : Dest) (b : Bytes) (r : Outcome Unit) (d' : Dest)
    (h : writeAll d b = (r, d')) :
    (∀ s, r ≠ .panic s) ∧ (∃ k, k ≤ b.length ∧ d'.buf = d.buf ++ b.take k) ∧
    (r = .ok () → d'.buf = d.buf ++ b) := by
  have s := writeAll_spec d b r d' h
  exact ⟨s.noPanic, s.pref, s.ok_all⟩

/-- Writing to a memory buffer (`Vec<u8>`: no schedule) stores the concatenation of the operation
    payloads — for any operations, bare `write`s included: this is the reference byte sequence. -/
theorem C15_memory_buffer (ops : List WOp) (held : Bytes) (log : List Nat) :
    ∃ d', runOps { buf := held, log := log } ops = (.ok (), d') ∧ d'.buf = held ++ flatten ops :=
  runOps_accepting ops { buf := held, log := log } rfl rfl

/-- **Serialisers made of `write_all`s deliver.**  Under every schedule such a serialiser returns
    `Ok(())` and the destination has received exactly the concatenation of the operation payloads. -/
theorem C15_ops_deliver (ops : List WOp) (hall : ∀ op ∈ ops, op.isAll = true)
    (sched : List Nat) (held : Bytes) (log : List Nat) :
    ∃ d', runOps { sched := sched, tail := .accept, buf := held, log := log } ops = (.ok (), d') ∧
      d'.buf = held ++ flatten ops := by
  cases h : runOps { sched := sched, tail := .accept, buf := held, log := log } ops with
  | mk r d' =>
    have s := runOps_all_spec ops hall _ r d' h
    have hr : r = .ok () := s.accept_ok rfl
    subst hr
    exact ⟨d', rfl, s.ok_all rfl⟩

/-- **Schedule independence** (the property): for a serialiser all of whose calls are `write_all`,
    writing through ANY partial-write schedule produces `Ok(())` and exactly the byte sequence that
    writing to a memory buffer produces. -/
theorem C15_schedule_independent (ops : List WOp) (hall : ∀ op ∈ ops, op.isAll = true)
    (sched : List Nat) :
    ∃ dl dm, runOps (limited sched) ops = (.ok (), dl) ∧ runOps memory ops = (.ok (), dm) ∧
      dl.buf = dm.buf ∧ dm.buf = flatten ops := by
  obtain ⟨dl, h1, hb1⟩ := C15_ops_deliver ops hall sched [] []
  obtain ⟨dm, h2, hb2⟩ := C15_memory_buffer ops [] []
  exact ⟨dl, dm, h1, h2, by rw [hb1, hb2], by simpa using hb2⟩

/-- **No write reports success while bytes were dropped** — on any destination (hard failures and
    `Ok(0)` included) a serialiser made of `write_all`s never panics, leaves a prefix of its bytes at
    the destination, and if it returns `Ok(())` every byte has arrived. -/
theorem C15_ok_means_delivered (ops : List WOp) (hall : ∀ op ∈ ops, op.isAll = true)
    (d : Dest) (r : Outcome Unit) (d' : Dest) (h : runOps d ops = (r, d')) :
    (∀ s, r ≠ .panic s) ∧
    (∃ k, k ≤ (flatten ops).length ∧ d'.buf = d.buf ++ (flatten ops).take k) ∧
    (r = .ok () → d'.buf = d.buf ++ flatten ops) := by
  have s := runOps_all_spec ops hall d r d' h
  exact ⟨s.noPanic, s.pref, s.ok_all⟩

/-- **Replaying a call trace.**  What the correspondence driver does on every case: the reference
    bytes `b` are cut at the observed call boundaries (`trace` = requested length of each call on an
    unlimited writer, summing to `b.length`), every call is taken to be a `write_all`, and the
    operations are run under the case's schedule.  The model then always predicts success with
    exactly `b` delivered — so a real serialiser that disagrees on some schedule has a call that is
    not a `write_all`. -/
theorem C15_trace_replay_delivers (trace : List Nat) (b : Bytes) (h : trace.sum = b.length)
    (sched : List Nat) :
    ∃ d', runOps (limited sched) (opsOfTrace trace b) = (.ok (), d') ∧ d'.buf = b := by
  obtain ⟨d', h1, h2⟩ := C15_ops_deliver (opsOfTrace trace b) (opsOfTrace_all trace b) sched [] []
  refine ⟨d', h1, ?_⟩
  rw [h2, flatten_opsOfTrace, h]; simp

/-- **A bare `write` can drop** (the defect pattern of `Hash256::write` in the pinned tree):
    32 bytes into a destination that takes 5 per call — success is reported, 5 bytes arrived. -/
theorem C15_raw_can_drop :
    ∃ d', runOps (limited [5]) [.raw (List.replicate 32 0xab)] = (.ok (), d') ∧
      d'.buf = List.replicate 5 0xab ∧ d'.buf ≠ flatten [.raw (List.replicate 32 0xab)] :=
  ⟨_, rfl, by decide, by decide⟩

/-- … and it is never safe: for EVERY payload of two or more bytes there is a schedule (first call
    takes one byte) under which a bare `write` reports success having delivered one byte only. -/
theorem C15_raw_never_safe (b : Bytes) (hb : 2 ≤ b.length) :
    ∃ d', runOps (limited [1]) [.raw b] = (.ok (), d') ∧ d'.buf = b.take 1 ∧
      d'.buf ≠ flatten [.raw b] := by
  refine ⟨_, rfl, ?_, ?_⟩
  · simp [limited]
  · simp only [limited, flatten, List.flatMap_cons, List.flatMap_nil, WOp.payload, List.append_nil]
    intro h
    have := congrArg List.length h
    simp at this
    omega

/-- … and an interrupted call, which `write_all` retries, makes a bare `write` fail although the
    destination would have taken every byte. -/
theorem C15_raw_fails_on_interrupt :
    (runOps (limited [0]) [.raw [1, 2, 3]]).1 = .err "IoInterrupted" ∧
    (runOps (limited [0]) [.all [1, 2, 3]]) = (.ok (), { buf := [1, 2, 3], log := [3, 3] }) := by
  constructor <;> rfl

/-! ### The hypothesis `∀ op ∈ ops, op.isAll`, read off the source

`CG.Generated.WriteSites.sites` is rewritten on every run from `/repo/src` (`checks/srcscan.py`): one entry
`(file index, line, kind)` per method call made on an `io::Write` parameter in non-test code (kind 0 `write_all`,
1 byteorder integer write = `write_all` of a fixed array, 2 `write_fmt`, 3 `flush`, 4 a bare
`write`/`write_vectored`).  The serialisers of the crate are compositions of exactly these calls
(delegation to another `write(writer)` contributes that function's own sites). -/

/-- the write operation a source site of kind `k` performs on payload `b` -/
def siteOp (k : Nat) (b : Bytes) : WOp := if k = 4 then .raw b else .all b

/-- **No serialiser of the current tree makes a bare `write` call on its destination.** -/
theorem C15_source_has_no_bare_write : ∀ s ∈ Generated.WriteSites.sites, s.2.2 ≠ 4 := by decide

/-- … hence ANY sequence of calls drawn from the source's write sites, with any payloads, under ANY
    partial-write schedule, returns `Ok(())` having delivered exactly what a memory buffer receives. -/
theorem C15_source_sites_deliver (calls : List ((Nat × Nat × Nat) × Bytes))
    (hsrc : ∀ c ∈ calls, c.1 ∈ Generated.WriteSites.sites) (sched : List Nat) :
    let ops := calls.map (fun c => siteOp c.1.2.2 c.2)
    ∃ dl dm, runOps (limited sched) ops = (.ok (), dl) ∧ runOps memory ops = (.ok (), dm) ∧
      dl.buf = dm.buf ∧ dm.buf = flatten ops := by
  intro ops
  apply C15_schedule_independent
  intro op hop
  obtain ⟨c, hc, rfl⟩ := List.mem_map.mp hop
  have := C15_source_has_no_bare_write c.1 (hsrc c hc)
  simp [siteOp, this, WOp.isAll]

example : 0 < Generated.WriteSites.sites.length := by decide

/-! Non-vacuity: concrete schedules, with limits, interruptions and both kinds of tail. -/
example : (writeAll (limited [2, 0, 0, 1, 5]) [1, 2, 3, 4, 5, 6]).2.buf = [1, 2, 3, 4, 5, 6] := by decide
example : (writeAll (limited [2, 0, 0, 1, 5]) [1, 2, 3, 4, 5, 6]).2.log.reverse = [6, 4, 4, 4, 3] := by
  decide
example : (writeAll (limited [1, 1, 1]) [1, 2, 3, 4, 5, 6]).2.log.reverse = [6, 5, 4, 3] := by decide
example : writeAll (limited [2] .fail) [1, 2, 3] =
    (.err "IoBrokenPipe", { sched := [], tail := .fail, buf := [1, 2], log := [1, 3] }) := by decide
example : (writeAll (limited [2] .zero) [1, 2, 3]).1 = .err "IoWriteZero" := by decide
example : (runOps (limited [3, 0, 2]) [.all [1, 2], .all [], .all [3, 4, 5, 6]]).2.buf =
    [1, 2, 3, 4, 5, 6] := by decide
example : ∀ op ∈ opsOfTrace [4, 32, 4] (List.replicate 40 7), op.isAll = true := by decide
example : flatten (opsOfTrace [4, 32, 4] (List.replicate 40 7)) = List.replicate 40 7 := by decide

end CG.Props.C15
