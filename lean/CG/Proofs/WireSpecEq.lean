import CG.Proofs.WireMessages
import CG.Spec.WireSpec
/-!
The model encoders produce exactly the reference layout of `CG.Spec.WireSpec`, for in-range values.
-/
namespace CG.Model.Wire
open CG CG.Spec

theorem natToLEn1 (x : Nat) : natToLEn 1 x = [WireSpec.byte x] := by
  simp [natToLEn, WireSpec.byte]

theorem natToLEn2 (x : Nat) : natToLEn 2 x = WireSpec.le16 x := by
  simp [natToLEn, WireSpec.le16, WireSpec.byte]

theorem u8_enc (x : Nat) : u8.enc x = [WireSpec.byte x] := natToLEn1 x

theorem u16_enc (x : Nat) : u16.enc x = WireSpec.le16 x := natToLEn2 x

theorem natToLEn4 (x : Nat) : natToLEn 4 x = WireSpec.le32 x := by
  simp only [natToLEn, WireSpec.le32, WireSpec.byte, Nat.div_div_eq_div_mul, Nat.reduceMul]

theorem u32_enc (x : Nat) : u32.enc x = WireSpec.le32 x := natToLEn4 x

theorem natToLEn_mod (n x : Nat) : natToLEn n (x % 256 ^ n) = natToLEn n x := by
  have h := natToLEn_leToNat (natToLEn n x)
  rwa [natToLEn_length, leToNat_natToLEn] at h

theorem natToLEn_add (m n x : Nat) :
    natToLEn (m + n) x = natToLEn m x ++ natToLEn n (x / 256 ^ m) := by
  induction m generalizing x with
  | zero => simp [natToLEn]
  | succ m ih =>
    rw [Nat.add_right_comm]
    simp only [natToLEn, ih, List.cons_append, Nat.div_div_eq_div_mul, Nat.pow_succ']

theorem natToLEn8 (x : Nat) : natToLEn 8 x = WireSpec.le64 x := by
  rw [WireSpec.le64, ← natToLEn4, ← natToLEn4, show 4294967296 = 256 ^ 4 from rfl, natToLEn_mod]
  exact natToLEn_add 4 4 x

theorem u64_enc (x : Nat) : u64.enc x = WireSpec.le64 x := natToLEn8 x

theorem u16be_enc (x : Nat) : u16be.enc x = WireSpec.be16 x := by
  simp [u16be, uBE, natToLEn, WireSpec.be16, WireSpec.byte]

theorem ofSigned_eq_twos (k : Nat) (x : Int) (h1 : -((2 ^ k : Nat) : Int) ≤ 2 * x)
    (h2 : 2 * x < ((2 ^ k : Nat) : Int)) : ofSigned (2 ^ k) x = WireSpec.twos k x := by
  have hc : ((2 ^ k : Nat) : Int) = (2 : Int) ^ k := by simp
  rw [ofSigned_eq _ x h1 h2, WireSpec.twos, hc]

theorem iLE_enc (n : Nat) (x : Int) (h : (iLE n).wf x) :
    (iLE n).enc x = natToLEn n (WireSpec.twos (8 * n) x) := by
  have e : (256 : Nat) ^ n = 2 ^ (8 * n) := by rw [Nat.pow_mul]
  have h : -((256 ^ n : Nat) : Int) ≤ 2 * x ∧ 2 * x < ((256 ^ n : Nat) : Int) := h
  rw [e] at h
  show natToLEn n (ofSigned (256 ^ n) x) = _
  rw [e, ofSigned_eq_twos (8 * n) x h.1 h.2]

theorem i32_enc (x : Int) (h : i32.wf x) : i32.enc x = WireSpec.sle32 x := by
  rw [i32, iLE_enc 4 x h, natToLEn4]
  rfl

theorem i64_enc (x : Int) (h : i64.wf x) : i64.enc x = WireSpec.sle64 x := by
  rw [i64, iLE_enc 8 x h, natToLEn8]
  rfl

theorem varint_enc (n : Nat) : varint.enc n = WireSpec.compactSize n := by
  have e : (n < 0xfd) = (n ≤ 252) := propext (by omega)
  simp only [varint, WireSpec.compactSize, e, natToLEn1, natToLEn2, natToLEn4, natToLEn8]

theorem flatten_map_eq {α} (f g : α → Bytes) (l : List α) (h : ∀ a ∈ l, f a = g a) :
    (l.map f).flatten = l.flatMap g := by
  rw [List.flatMap_def, List.map_congr_left h]

theorem varBytes_enc (b : Bytes) : varBytes.enc b = WireSpec.varBytes b := by
  simp only [varBytes, enc_lenPrefixed, enc_vecBytes, varint_enc, WireSpec.varBytes]

theorem varStr_enc (b : Bytes) : varStr.enc b = WireSpec.varBytes b := varBytes_enc b

theorem listPush_enc {α} (c : Codec α) (g : α → Bytes) (l : List α) (h : ∀ a ∈ l, c.enc a = g a) :
    (listPush c).enc l = WireSpec.vector g l := by
  simp only [listPush, enc_lenPrefixed, enc_repeatN, varint_enc, WireSpec.vector, flatten_map_eq _ _ l h]

theorem listCap_enc {α} (c : Codec α) (g : α → Bytes) (l : List α) (h : ∀ a ∈ l, c.enc a = g a) :
    (listCap c).enc l = WireSpec.vector g l := listPush_enc c g l h

theorem listMax_enc {α} (m : Nat) (c : Codec α) (g : α → Bytes) (l : List α) (h : ∀ a ∈ l, c.enc a = g a) :
    (listMax m c).enc l = WireSpec.vector g l := by
  simp only [listMax, enc_lenPrefixed, enc_refine, enc_repeatN, varint_enc, WireSpec.vector,
    flatten_map_eq _ _ l h]

theorem listTry_enc {α} (c : Codec α) (g : α → Bytes) (l : List α) (h : ∀ a ∈ l, c.enc a = g a) :
    (listTry c).enc l = WireSpec.vector g l := by
  simp only [listTry, varint_enc, WireSpec.vector, flatten_map_eq _ _ l h]

theorem lenPrefixed_wf_all {α} {cl : Codec Nat} {c : Codec α} {l : List α}
    (h : (lenPrefixed cl (repeatN c) List.length []).wf l) : ∀ a ∈ l, c.wf a := h.2.2

theorem listTry_wf_all {α} {c : Codec α} {l : List α} (h : (listTry c).wf l) : ∀ a ∈ l, c.wf a := h.2

theorem outPoint_enc (o : OutPoint) : outPointC.enc o = WireSpec.outPoint o := by
  simp [outPointC, WireSpec.outPoint, u32_enc]

theorem txIn_enc (t : TxIn) : txInC.enc t = WireSpec.txIn t := by
  simp [txInC, WireSpec.txIn, outPoint_enc, varBytes_enc, u32_enc]

theorem txOut_enc (t : TxOut) (h : txOutC.wf t) : txOutC.enc t = WireSpec.txOut t := by
  simp [txOutC, WireSpec.txOut, i64_enc _ h.1, varBytes_enc]

theorem tx_enc (t : Tx) (h : txC.wf t) : txC.enc t = WireSpec.tx t := by
  obtain ⟨_, _, ho, _⟩ := h
  have e1 := listCap_enc txInC WireSpec.txIn t.inputs (fun a _ => txIn_enc a)
  have e2 := listCap_enc txOutC WireSpec.txOut t.outputs
    (fun a ha => txOut_enc a (lenPrefixed_wf_all ho a ha))
  simp [txC, WireSpec.tx, u32_enc, e1, e2]

theorem blockHeader_enc (h : BlockHeader) : blockHeaderC.enc h = WireSpec.blockHeader h := by
  simp [blockHeaderC, WireSpec.blockHeader, u32_enc]

theorem invVect_enc (v : InvVect) : invVectC.enc v = WireSpec.invVect v := by
  simp [invVectC, WireSpec.invVect, u32_enc]

theorem inv_enc (v : Inv) : invC.enc v = WireSpec.inv v := by
  simp [invC, WireSpec.inv, listMax_enc _ invVectC WireSpec.invVect v.objects (fun a _ => invVect_enc a)]

theorem blockLocator_enc (v : BlockLocator) : blockLocatorC.enc v = WireSpec.blockLocator v := by
  simp [blockLocatorC, WireSpec.blockLocator, u32_enc,
    listPush_enc hash32 id v.blockLocatorHashes (fun _ _ => rfl)]

theorem ping_enc (v : Ping) : pingC.enc v = WireSpec.ping v := by simp [pingC, WireSpec.ping, u64_enc]
theorem feeFilter_enc (v : FeeFilter) : feeFilterC.enc v = WireSpec.feeFilter v := by
  simp [feeFilterC, WireSpec.feeFilter, u64_enc]
theorem sendCmpct_enc (v : SendCmpct) : sendCmpctC.enc v = WireSpec.sendCmpct v := by
  simp [sendCmpctC, WireSpec.sendCmpct, u64_enc, u8_enc]

theorem nodeAddr_enc (v : NodeAddr) : nodeAddrC.enc v = WireSpec.nodeAddr v := by
  simp [nodeAddrC, WireSpec.nodeAddr, u64_enc, u16be_enc]

theorem nodeAddrEx_enc (v : NodeAddrEx) : nodeAddrExC.enc v = WireSpec.nodeAddrEx v := by
  simp [nodeAddrExC, WireSpec.nodeAddrEx, u32_enc, nodeAddr_enc]

theorem assocOpt_enc (a : Bytes) :
    assocOpt.enc a = if a = [] then [] else WireSpec.byte a.length :: a := by
  cases a with
  | nil => rfl
  | cons x xs => simp [assocOpt, natToLEn, WireSpec.byte]

theorem boolByte_enc (b : Bool) : boolByte.enc b = [if b then 1 else 0] := rfl

theorem version_enc (v : Version) (h : versionC.wf v) : versionC.enc v = WireSpec.version v := by
  obtain ⟨_, _, ht, _, _, _, _, hh, _, _⟩ := h
  simp [versionC, WireSpec.version, u32_enc, u64_enc, i64_enc _ ht, i32_enc _ hh, nodeAddr_enc, varStr_enc,
    boolByte_enc, assocOpt_enc]

theorem addr_enc (v : Addr) : addrC.enc v = WireSpec.addr v := by
  simp [addrC, WireSpec.addr, listMax_enc _ nodeAddrExC WireSpec.nodeAddrEx v.addrs (fun a _ => nodeAddrEx_enc a)]

theorem headers_enc (v : Headers) : headersC.enc v = WireSpec.headers v := by
  have e := listPush_enc (blockHeaderC ⊗ skipByte) (fun x => WireSpec.blockHeader x.1 ++ [0])
    (v.headers.map fun x => (x, ())) (fun a _ => by simp [blockHeader_enc, skipByte])
  simp only [headersC, enc_iso, e, WireSpec.headers, WireSpec.vector, List.length_map, List.flatMap_map]

theorem block_enc (v : Block) (h : blockC.wf v) : blockC.enc v = WireSpec.block v := by
  obtain ⟨_, ht⟩ := h
  have e := listCap_enc txC WireSpec.tx v.txns (fun a ha => tx_enc a (lenPrefixed_wf_all ht a ha))
  simp [blockC, WireSpec.block, blockHeader_enc, e]

theorem merkleBlock_enc (v : MerkleBlock) : merkleBlockC.enc v = WireSpec.merkleBlock v := by
  simp [merkleBlockC, WireSpec.merkleBlock, blockHeader_enc, u32_enc, varBytes_enc,
    listCap_enc hash32 id v.hashes (fun _ _ => rfl)]

theorem filterLoad_enc (v : FilterLoad) : filterLoadC.enc v = WireSpec.filterLoad v := by
  simp [filterLoadC, WireSpec.filterLoad, varBytes_enc, u32_enc, u8_enc]

theorem filterAdd_enc (v : FilterAdd) : filterAddC.enc v = WireSpec.filterAdd v := by
  simp [filterAddC, WireSpec.filterAdd, varBytes_enc]

theorem reject_enc (v : Reject) : rejectC.enc v = WireSpec.reject v := by
  simp [rejectC, WireSpec.reject, varStr_enc, u8_enc]

theorem protoconf_enc (v : Protoconf) (h : protoconfC.wf v) : protoconfC.enc v = WireSpec.protoconf v := by
  obtain ⟨_, _, hp⟩ := h
  cases v with
  | mk ver mx pol =>
    simp only [protoconfC, enc_iso, enc_dpair, enc_pair, varint_enc, u32_enc, WireSpec.protoconf]
    simp only at hp
    have hv := optionC_wf hp
    cases pol with
    | some s =>
      have hv : ver > 1 := by simpa using hv
      simp [optionC, hv, inj, varStr_enc]
    | none =>
      have hv : ¬ ver > 1 := by simpa using hv
      simp [optionC, hv]

theorem authch_enc (v : Authch) (h : authchC.wf v) : authchC.enc v = WireSpec.authch v := by
  simp [authchC, WireSpec.authch, i32_enc _ h.1, u32_enc]

theorem assocAlways_enc (a : Bytes) : assocAlways.enc a = WireSpec.assocId a := by
  simp [assocAlways, natToLEn, WireSpec.assocId, WireSpec.byte]

theorem policyOpt_enc (a : Bytes) :
    policyOpt.enc a = if a = [] then [] else WireSpec.varBytes a := by
  cases a with
  | nil => rfl
  | cons x xs => simp [policyOpt, varint_enc, WireSpec.varBytes]

theorem createstrm_enc (v : Createstrm) : createstrmC.enc v = WireSpec.createstrm v := by
  simp [createstrmC, WireSpec.createstrm, assocAlways_enc, u8_enc, policyOpt_enc]

theorem streamack_enc (v : Streamack) : streamackC.enc v = WireSpec.streamack v := by
  simp [streamackC, WireSpec.streamack, assocAlways_enc, u8_enc]

theorem prefilled_enc (v : PrefilledTx) (h : prefilledC.wf v) : prefilledC.enc v = WireSpec.prefilled v := by
  simp [prefilledC, WireSpec.prefilled, varint_enc, tx_enc _ h.2]

theorem cmpctblock_enc (v : Cmpctblock) (h : cmpctblockC.wf v) : cmpctblockC.enc v = WireSpec.cmpctblock v := by
  obtain ⟨_, _, _, hp⟩ := h
  have e1 := listTry_enc (bytesN SHORT_TX_ID_LEN) id v.shortids (fun _ _ => rfl)
  have e2 := listTry_enc prefilledC WireSpec.prefilled v.prefilledtxn
    (fun a ha => prefilled_enc a (listTry_wf_all hp a ha))
  simp [cmpctblockC, WireSpec.cmpctblock, blockHeader_enc, u64_enc, e1, e2]

theorem getblocktxn_enc (v : Getblocktxn) : getblocktxnC.enc v = WireSpec.getblocktxn v := by
  simp [getblocktxnC, WireSpec.getblocktxn,
    listTry_enc varint WireSpec.compactSize v.indexes (fun a _ => varint_enc a)]

theorem blocktxn_enc (v : Blocktxn) (h : blocktxnC.wf v) : blocktxnC.enc v = WireSpec.blocktxn v := by
  obtain ⟨_, ht⟩ := h
  have e := listTry_enc txC WireSpec.tx v.transactions (fun a ha => tx_enc a (listTry_wf_all ht a ha))
  simp [blocktxnC, WireSpec.blocktxn, e]

theorem bip155_enc (p : Nat × Bytes) (h : bip155C.wf p) :
    bip155C.enc p = [WireSpec.byte p.1] ++ WireSpec.varBytes p.2 := by
  obtain ⟨id, a⟩ := p
  obtain ⟨_, h2⟩ := h
  simp only [bip155C, enc_dpair, u8_enc] at h2 ⊢
  by_cases hid : 1 ≤ id ∧ id ≤ 6
  · simp only [hid, and_self, if_true] at h2 ⊢
    have hw : (constC varint (bip155Len id) "BadData" ⊗ bytesN (bip155Len id)).wf ((), a) := h2
    have hl : a.length = bip155Len id := hw.2
    simp [inj, constC, varint_enc, WireSpec.varBytes, hl]
  · simp only [hid, if_false] at h2
    exact h2.elim

theorem nodeAddrExV2_enc (v : NodeAddrExV2) (h : nodeAddrExV2C.wf v) :
    nodeAddrExV2C.enc v = WireSpec.nodeAddrExV2 v := by
  obtain ⟨_, _, hb, _⟩ := h
  have e := bip155_enc (v.networkId, v.addr) hb
  simp only at e
  simp [nodeAddrExV2C, WireSpec.nodeAddrExV2, u32_enc, varint_enc, e, u16be_enc]

theorem addrV2_enc (v : AddrV2) (h : addrV2C.wf v) : addrV2C.enc v = WireSpec.addrV2 v := by
  have e := listMax_enc MAX_ADDR_COUNT nodeAddrExV2C WireSpec.nodeAddrExV2 v.addrs
    (fun a ha => nodeAddrExV2_enc a (lenPrefixed_wf_all h a ha))
  simp [addrV2C, WireSpec.addrV2, e]

end CG.Model.Wire
