import CG.Proofs.InterpFlow
import CG.Proofs.ScriptBuildMulti
import CG.Model.TxScript
/-!
Symbolic execution of the three key-locked templates (P2PKH, P2PK, m-of-n multisig) on an ARBITRARY
initial stack, alt stack, checker and rule set: the exact value of `core_eval` on each template as a
function of the initial stack (helper lemmas for C03).
-/
namespace CG.Proofs.Templates
open CG CG.Model.ScriptNum CG.Model.Interp CG.Proofs.InterpFlow

/-- what the loop does with the result of one opcode -/
def stepK {σ : Type} (r : Outcome (Bool × St σ)) (i : Nat) (k : St σ → Outcome (St σ × Nat)) :
    Outcome (St σ × Nat) :=
  match r with
  | .ok (true, st') => finish st' i
  | .ok (false, st') => k st'
  | .err e => .err e
  | .panic p => .panic p

@[simp] theorem stepK_ok_false {σ : Type} (st' : St σ) (i : Nat) (k : St σ → Outcome (St σ × Nat)) :
    stepK (.ok (false, st')) i k = k st' := rfl
@[simp] theorem stepK_err {σ : Type} (e : String) (i : Nat) (k : St σ → Outcome (St σ × Nat)) :
    stepK (.err e) i k = .err e := rfl
@[simp] theorem stepK_scriptErr {σ : Type} (i : Nat) (k : St σ → Outcome (St σ × Nat)) :
    stepK scriptErr i k = scriptErr := rfl
@[simp] theorem stepK_panic {σ : Type} (p : String) (i : Nat) (k : St σ → Outcome (St σ × Nat)) :
    stepK (.panic p) i k = .panic p := rfl

section steps
variable {σ : Type} (ex : Nat → Op → St σ → Outcome (Bool × St σ))

theorem runFrom_op (script : Bytes) (i : Nat) (st : St σ) (hi : i < script.length)
    (hbr : st.branch = []) :
    runFrom ex script i st
      = stepK (ex i (decodeOp (script.getD i 0)) st) i (runFrom ex script (nextOp i script)) := by
  rw [run_step ex script i i st hi (by unfold advance; rw [hbr]) hi]
  rfl

/-- 78 = OP_PUSHDATA4: every byte above it is a one-byte opcode -/
theorem runFrom_simple (script pre post : Bytes) (b : UInt8) (i : Nat) (st : St σ)
    (hs : script = pre ++ b :: post) (hi : i = pre.length) (hb : 78 < b.toNat) (hbr : st.branch = []) :
    runFrom ex script i st = stepK (ex i (decodeOp b) st) i (runFrom ex script (i + 1)) := by
  subst hs hi
  have hlt : pre.length < (pre ++ b :: post).length := by simp
  rw [runFrom_op ex _ _ _ hlt hbr, getD_append_cons,
    nextOp_single hlt (.inr (by unfold byteAt; rw [getD_append_cons]; exact hb))]

theorem runFrom_done (script : Bytes) (i : Nat) (st : St σ) (hi : script.length ≤ i)
    (hbr : st.branch = []) : runFrom ex script i st = .ok (st, i) := by
  rw [runFrom_end _ _ _ _ hi]
  simp [finish, hbr]

end steps

/-- the direct push `len ‖ data` of 1 to 75 bytes -/
def pushOf (k : Bytes) : Bytes := UInt8.ofNat k.length :: k

theorem pushOf_length (k : Bytes) : (pushOf k).length = k.length + 1 := by simp [pushOf]

section push
variable {σ : Type} (H : Hashes) (C : Checker σ) (pg : Bool)

theorem runFrom_push (script pre post k : Bytes) (i : Nat) (st : St σ)
    (hs : script = pre ++ pushOf k ++ post) (hi : i = pre.length)
    (h1 : 1 ≤ k.length) (h2 : k.length ≤ 75) (hbr : st.branch = []) :
    runFrom (exec H C pg script) script i st
      = runFrom (exec H C pg script) script (i + 1 + k.length) { st with stack := k :: st.stack } := by
  have hs' : script = pre ++ UInt8.ofNat k.length :: (k ++ post) := by simp [hs, pushOf]
  subst hs' hi
  have stp := ScriptBuild.step_direct H C pg pre post k h1 h2
  rw [runFrom_op _ _ _ _ stp.inside hbr, stp.exec, stp.next, stepK_ok_false, Nat.add_assoc]

end push

/-- repackaging of the loop result done by `core_eval` -/
def pack {σ : Type} (r : Outcome (St σ × Nat)) : Outcome (EvalResult σ) :=
  match r with
  | .ok (st, _) => .ok { stack := st.stack, alt := st.alt, pos := none, chk := st.chk }
  | .err e => .err e
  | .panic p => .panic p

theorem coreEval_eq {σ : Type} (H : Hashes) (C : Checker σ) (c0 : σ) (script : Bytes) (flags : Nat)
    (stack alt : Option Stack) :
    coreEval H C c0 script flags none none stack alt
      = pack (runFrom (exec H C (flags % 2 = 1) script) script 0
          { stack := stack.getD [], alt := alt.getD [], branch := [], checkIndex := 0, chk := c0 }) := by
  unfold coreEval pack run runFrom
  simp only [Option.getD_none, Option.map_none]
  rfl

/-- what a template's last opcode leaves once the checker has answered `r`: the verdict as a boolean
    item on `rest`, the run ended at offset `stop` -/
def msOutcome {σ : Type} (r : Outcome Bool × σ) (rest alt : Stack) (stop : Nat) : Outcome (St σ × Nat) :=
  match r with
  | (.ok b, c') => .ok ({ stack := boolItem b :: rest, alt := alt, branch := [], checkIndex := 0, chk := c' }, stop)
  | (.err e, _) => .err e
  | (.panic p, _) => .panic p

/-- outcome of a final OP_CHECKSIG with script code `script[0..]` -/
def sigResult {σ : Type} (C : Checker σ) (c0 : σ) (script sig pk : Bytes) (rest alt : Stack)
    (stop : Nat) : Outcome (St σ × Nat) :=
  msOutcome (C.checkSig c0 sig pk (cleaned script 0 sig)) rest alt stop

section templates
variable {σ : Type} (H : Hashes) (C : Checker σ) (pg : Bool)

theorem runFrom_final_checksig (script pre : Bytes) (i : Nat) (pk sig : Bytes) (rest alt : Stack) (c0 : σ)
    (hs : script = pre ++ [0xac]) (hi : i = pre.length) :
    runFrom (exec H C pg script) script i
        { stack := pk :: sig :: rest, alt := alt, branch := [], checkIndex := 0, chk := c0 }
      = sigResult C c0 script sig pk rest alt (i + 1) := by
  rw [runFrom_simple _ script pre [] 0xac i _ hs hi (by decide) rfl]
  have hd : decodeOp 0xac = .checksig := by decide
  rw [hd]
  simp only [exec, sigCheck, checkSize, popU, sigResult]
  simp only [List.length_cons, if_neg (show ¬ (rest.length + 1 + 1 < 2) by omega)]
  rw [if_neg (by omega)]
  rcases hc : C.checkSig c0 sig pk (cleaned script 0 sig) with ⟨r, c'⟩
  cases r with
  | ok b =>
    simp only [Bool.false_eq_true, if_false, stepK_ok_false]
    rw [runFrom_done _ _ _ _ (by simp [hs, hi]) rfl]
    rfl
  | err e => rfl
  | panic p => rfl

theorem runFrom_final_checksig_short (script pre : Bytes) (i : Nat) (s : Stack) (alt : Stack) (c0 : σ)
    (hs : script = pre ++ [0xac]) (hi : i = pre.length) (hl : s.length < 2) :
    runFrom (exec H C pg script) script i
        { stack := s, alt := alt, branch := [], checkIndex := 0, chk := c0 } = scriptErr := by
  rw [runFrom_simple _ script pre [] 0xac i _ hs hi (by decide) rfl]
  have hd : decodeOp 0xac = .checksig := by decide
  rw [hd]
  simp only [exec, sigCheck, checkSize, if_pos hl, stepK_scriptErr]

def p2pkhLock (h : Bytes) : Bytes := [0x76, 0xa9, 0x14] ++ h ++ [0x88, 0xac]

theorem p2pkh_run (h : Bytes) (hh : h.length = 20) (s0 alt : Stack) (c0 : σ) :
    runFrom (exec H C pg (p2pkhLock h)) (p2pkhLock h) 0
        { stack := s0, alt := alt, branch := [], checkIndex := 0, chk := c0 }
      = match s0 with
        | pk :: sig :: rest =>
          if h = H.hash160 pk then sigResult C c0 (p2pkhLock h) sig pk rest alt 25 else scriptErr
        | _ => scriptErr := by
  have e0 : p2pkhLock h = [] ++ 0x76 :: ([0xa9, 0x14] ++ h ++ [0x88, 0xac]) := by simp [p2pkhLock]
  have e1 : p2pkhLock h = [0x76] ++ 0xa9 :: ([0x14] ++ h ++ [0x88, 0xac]) := by simp [p2pkhLock]
  have e2 : p2pkhLock h = [0x76, 0xa9] ++ pushOf h ++ [0x88, 0xac] := by simp [p2pkhLock, pushOf, hh]
  have e3 : p2pkhLock h = ([0x76, 0xa9, 0x14] ++ h) ++ 0x88 :: [0xac] := by simp [p2pkhLock]
  have e4 : p2pkhLock h = ([0x76, 0xa9, 0x14] ++ h ++ [0x88]) ++ [0xac] := by simp [p2pkhLock]
  have d0 : decodeOp 0x76 = .dup := by decide
  have d1 : decodeOp 0xa9 = .hash160 := by decide
  have d3 : decodeOp 0x88 = .equalverify := by decide
  rw [runFrom_simple _ _ _ _ _ 0 _ e0 rfl (by decide) rfl, d0]
  cases s0 with
  | nil => simp [exec, checkSize]
  | cons pk r =>
    simp only [exec, checkSize, List.length_cons, if_neg (show ¬ (r.length + 1 < 1) by omega),
      stepK_ok_false]
    rw [runFrom_simple _ _ _ _ _ (0 + 1) _ e1 rfl (by decide) rfl, d1]
    simp only [exec, hashOp, checkSize, popU, List.length_cons,
      if_neg (show ¬ (r.length + 1 + 1 < 1) by omega), stepK_ok_false]
    rw [runFrom_push H C pg _ _ _ h (0 + 1 + 1) _ e2 rfl (by omega) (by omega) rfl]
    rw [runFrom_simple _ _ _ _ _ (0 + 1 + 1 + 1 + h.length) _ e3 (by simp; omega) (by decide) rfl, d3]
    simp only [exec, checkSize, List.length_cons,
      if_neg (show ¬ (r.length + 1 + 1 + 1 < 2) by omega)]
    by_cases heq : h = H.hash160 pk
    · simp only [if_pos heq, stepK_ok_false]
      cases r with
      | nil =>
        rw [runFrom_final_checksig_short H C pg _ _ _ _ _ _ e4 (by simp; omega) (by simp)]
      | cons sig rest =>
        rw [runFrom_final_checksig H C pg _ _ _ _ _ _ _ _ e4 (by simp; omega)]
        simp only [if_pos heq, hh]
    · simp only [if_neg heq, stepK_scriptErr]
      cases r with
      | nil => rfl
      | cons sig rest => simp [heq]

/-- `<pk> OP_CHECKSIG` (`[33] ++ pk ++ [0xac]` for a compressed key, `[65] ++ …` uncompressed) -/
def p2pkLock (pk : Bytes) : Bytes := pushOf pk ++ [0xac]

theorem p2pk_run (pk : Bytes) (h1 : 1 ≤ pk.length) (h2 : pk.length ≤ 75) (s0 alt : Stack) (c0 : σ) :
    runFrom (exec H C pg (p2pkLock pk)) (p2pkLock pk) 0
        { stack := s0, alt := alt, branch := [], checkIndex := 0, chk := c0 }
      = match s0 with
        | sig :: rest => sigResult C c0 (p2pkLock pk) sig pk rest alt (pk.length + 2)
        | [] => scriptErr := by
  have e0 : p2pkLock pk = [] ++ pushOf pk ++ [0xac] := by simp [p2pkLock]
  have e1 : p2pkLock pk = pushOf pk ++ [0xac] := rfl
  rw [runFrom_push H C pg _ _ _ pk 0 _ e0 rfl h1 h2 rfl]
  cases s0 with
  | nil => rw [runFrom_final_checksig_short H C pg _ _ _ _ _ _ e1 (by simp [pushOf]; omega) (by simp)]
  | cons sig rest =>
    rw [runFrom_final_checksig H C pg _ _ _ _ _ _ _ _ e1 (by simp [pushOf]; omega)]
    simp only [show 0 + 1 + pk.length + 1 = pk.length + 2 by omega]

theorem runFrom_pushes (script : Bytes) (keys : List Bytes)
    (hk : ∀ k ∈ keys, 1 ≤ k.length ∧ k.length ≤ 75) :
    ∀ (pre post : Bytes) (i : Nat) (st : St σ), script = pre ++ keys.flatMap pushOf ++ post →
      i = pre.length → st.branch = [] →
      runFrom (exec H C pg script) script i st
        = runFrom (exec H C pg script) script (i + (keys.flatMap pushOf).length)
            { st with stack := keys.reverse ++ st.stack } := by
  induction keys with
  | nil => intro pre post i st _ _ _; simp
  | cons k ks ih =>
    intro pre post i st hs hi hbr
    have hk1 := hk k (by simp)
    have hs1 : script = pre ++ pushOf k ++ (ks.flatMap pushOf ++ post) := by
      rw [hs]; simp
    rw [runFrom_push H C pg script pre _ k i st hs1 hi hk1.1 hk1.2 hbr]
    have hs2 : script = (pre ++ pushOf k) ++ ks.flatMap pushOf ++ post := by
      rw [hs]; simp
    rw [ih (fun k' hk' => hk k' (by simp [hk'])) (pre ++ pushOf k) post (i + 1 + k.length)
      { st with stack := k :: st.stack } hs2
      (by simp [pushOf, hi]; omega) hbr]
    have hpos : i + 1 + k.length + (ks.flatMap pushOf).length
        = i + ((k :: ks).flatMap pushOf).length := by
      simp [pushOf]; omega
    rw [hpos]
    simp

end templates

/-- OP_1 … OP_16 -/
theorem decodeOp_of_small {b : UInt8} (h1 : 81 ≤ b.toNat) (h2 : b.toNat ≤ 96) :
    decodeOp b = .pushNum (Int.ofNat (b.toNat - 80)) :=
  (if_neg (by omega)).trans <| (if_neg (by omega)).trans <| (if_neg (by omega)).trans <|
    (if_neg (by omega)).trans <| (if_neg (by omega)).trans <| (if_neg (by omega)).trans <|
    if_pos ⟨h1, h2⟩

theorem decodeOp_small {m : Nat} (h1 : 1 ≤ m) (h2 : m ≤ 16) :
    decodeOp (UInt8.ofNat (80 + m)) = .pushNum (m : Int) := by
  have hn : (UInt8.ofNat (80 + m)).toNat = 80 + m := toNat_ofNat_lt (by omega)
  rw [decodeOp_of_small (by omega) (by omega), hn]
  congr 1
  simp

theorem encodeNum_small {m : Nat} (h1 : 1 ≤ m) (h2 : m < 128) :
    encodeNum (m : Int) = .ok [UInt8.ofNat m] := by
  unfold encodeNum
  rw [if_neg (by omega)]
  simp only [Int.natAbs_natCast]
  rw [if_neg (by omega), if_pos h2, if_neg (by omega)]
  rfl

theorem decodeNum_singleton {m : Nat} (h2 : m < 128) : decodeNum [UInt8.ofNat m] = .ok (m : Int) := by
  have hc : (clearSign (UInt8.ofNat m)).toNat = m := by
    rw [clearSign_toNat, toNat_ofNat_lt (by omega)]; omega
  have hs : signSet (UInt8.ofNat m) = false := by
    rw [signSet_iff, toNat_ofNat_lt (by omega)]; simp; omega
  simp [decodeNum, hs, leToNat, hc]

theorem popNum_small {m : Nat} (h2 : m < 128) (s : Stack) :
    popNum ([UInt8.ofNat m] :: s) = .ok ((m : Int), s) := by
  simp [popNum, decodeNum_singleton h2]

/-- the script code handed to the checker by `check_multisig`: every pre-fork signature removed -/
def msCleaned (sub : Bytes) (sigs : List Bytes) : Bytes :=
  sigs.foldl (fun acc sg => if prefork sg then removeSig sg acc else acc) sub

/-- result of the matching loop, repackaged as `check_multisig` does -/
def msResult {σ : Type} (r : Outcome Bool × σ) (rest : Stack) : Outcome (Bool × Stack) × σ :=
  match r with
  | (.ok b, c') => (.ok (b, rest), c')
  | (.err e, c') => (.err e, c')
  | (.panic p, c') => (.panic p, c')

theorem checkMultisig_template {σ : Type} (C : Checker σ) (c0 : σ) (m : Nat) (keys : List Bytes)
    (s0 : Stack) (sub : Bytes) (hn : keys.length < 128) (hm : m ≤ keys.length) :
    checkMultisig C c0 ([UInt8.ofNat keys.length] :: (keys ++ [UInt8.ofNat m] :: s0)) sub
      = if s0.length < m + 1 then (scriptErr, c0)
        else msResult (msLoop C (msCleaned sub (s0.take m)) c0 (s0.take m) keys) (s0.drop (m + 1)) := by
  unfold checkMultisig
  rw [popNum_small hn]
  simp only []
  rw [if_neg (by omega), if_neg (by simp)]
  simp only [Int.toNat_natCast, List.take_left', List.drop_left']
  rw [popNum_small (by omega)]
  simp only []
  rw [if_neg (by omega)]
  simp only [Int.toNat_natCast]
  by_cases h1 : s0.length < m
  · rw [if_pos h1, if_pos (by omega)]
  · rw [if_neg h1]
    by_cases h2 : (s0.drop m).length < 1
    · rw [if_pos h2, if_pos (by simp at h2; omega)]
    · rw [if_neg h2, if_neg (by simp at h2; omega)]
      simp only [List.drop_drop, msCleaned, msResult]
      rfl

section multisig
variable {σ : Type} (H : Hashes) (C : Checker σ) (pg : Bool)

/-- `OP_m <k1> … <kn> OP_n OP_CHECKMULTISIG` -/
def multisigLock (m : Nat) (keys : List Bytes) : Bytes :=
  [UInt8.ofNat (80 + m)] ++ keys.flatMap pushOf ++ [UInt8.ofNat (80 + keys.length), 0xae]

/-- the top `m` items are the signatures (top first), the next one is the dummy, and the keys are tried
    from the last one pushed -/
theorem multisig_run (m : Nat) (keys : List Bytes) (h1 : 1 ≤ m) (h2 : m ≤ keys.length)
    (h3 : keys.length ≤ 16) (hk : ∀ k ∈ keys, 1 ≤ k.length ∧ k.length ≤ 75)
    (s0 alt : Stack) (c0 : σ) :
    runFrom (exec H C pg (multisigLock m keys)) (multisigLock m keys) 0
        { stack := s0, alt := alt, branch := [], checkIndex := 0, chk := c0 }
      = if s0.length < m + 1 then scriptErr
        else msOutcome (msLoop C (msCleaned (multisigLock m keys) (s0.take m)) c0 (s0.take m) keys.reverse)
              (s0.drop (m + 1)) alt (multisigLock m keys).length := by
  have e0 : multisigLock m keys = [] ++ UInt8.ofNat (80 + m) ::
      (keys.flatMap pushOf ++ [UInt8.ofNat (80 + keys.length), 0xae]) := by simp [multisigLock]
  have e1 : multisigLock m keys = [UInt8.ofNat (80 + m)] ++ keys.flatMap pushOf ++
      [UInt8.ofNat (80 + keys.length), 0xae] := rfl
  have e2 : multisigLock m keys = ([UInt8.ofNat (80 + m)] ++ keys.flatMap pushOf) ++
      UInt8.ofNat (80 + keys.length) :: [0xae] := by simp [multisigLock]
  have e3 : multisigLock m keys = ([UInt8.ofNat (80 + m)] ++ keys.flatMap pushOf ++
      [UInt8.ofNat (80 + keys.length)]) ++ 0xae :: [] := by simp [multisigLock]
  have hlen : (multisigLock m keys).length = 0 + 1 + (keys.flatMap pushOf).length + 1 + 1 := by
    simp [multisigLock]; omega
  have d3 : decodeOp 0xae = .checkmultisig := by decide
  rw [runFrom_simple _ _ _ _ _ 0 _ e0 rfl (by rw [toNat_ofNat_lt (by omega)]; omega) rfl,
    decodeOp_small h1 (by omega)]
  simp only [exec, encodeNum_small h1 (show m < 128 by omega), stepK_ok_false]
  rw [runFrom_pushes H C pg _ keys hk _ _ (0 + 1) _ e1 rfl rfl]
  by_cases hn0 : keys.length = 0
  · omega
  rw [runFrom_simple _ _ _ _ _ (0 + 1 + (keys.flatMap pushOf).length) _ e2 (by simp; omega)
    (by rw [toNat_ofNat_lt (by omega)]; omega) rfl,
    decodeOp_small (show 1 ≤ keys.length by omega) h3]
  simp only [exec, encodeNum_small (show 1 ≤ keys.length by omega) (show keys.length < 128 by omega),
    stepK_ok_false]
  rw [runFrom_simple _ _ _ _ _ (0 + 1 + (keys.flatMap pushOf).length + 1) _ e3 (by simp; omega)
    (by decide) rfl, d3]
  simp only [exec, multisigOp]
  rw [if_neg (by omega)]
  have hkl : keys.length = keys.reverse.length := by simp
  simp only [List.drop_zero]
  rw [hkl, checkMultisig_template C c0 m keys.reverse s0 _ (by simp; omega) (by simp; omega)]
  by_cases hs : s0.length < m + 1
  · simp only [if_pos hs]; rfl
  · simp only [if_neg hs]
    rcases hl : msLoop C (msCleaned (multisigLock m keys) (s0.take m)) c0 (s0.take m) keys.reverse
      with ⟨r, c'⟩
    cases r with
    | ok b =>
      simp only [msResult, msOutcome, Bool.false_eq_true, if_false, stepK_ok_false]
      rw [runFrom_done _ _ _ _ (by rw [hlen]; omega) rfl, hlen]
    | err e => rfl
    | panic p => rfl

end multisig

/-- `Matches C scr c sigs keys c'`: walking the key list once, every signature is accepted
    (`check_sig = Ok(true)`) under a key strictly later than the key that accepted the previous
    signature; `c` is the checker state before and `c'` after.  Keys that are passed over answered
    `Ok(false)` for the signature that was current at that point. -/
inductive Matches {σ : Type} (C : Checker σ) (scr : Bytes) : σ → List Bytes → List Bytes → σ → Prop
  | done (c : σ) (keys : List Bytes) : Matches C scr c [] keys c
  | hit {c c' c'' : σ} {s k : Bytes} {ss ks : List Bytes} :
      C.checkSig c s k scr = (.ok true, c') → Matches C scr c' ss ks c'' →
      Matches C scr c (s :: ss) (k :: ks) c''
  | miss {c c' c'' : σ} {s k : Bytes} {ss ks : List Bytes} :
      C.checkSig c s k scr = (.ok false, c') → Matches C scr c' (s :: ss) ks c'' →
      Matches C scr c (s :: ss) (k :: ks) c''

theorem msLoop_true_iff {σ : Type} (C : Checker σ) (scr : Bytes) (c c' : σ) (sigs keys : List Bytes) :
    msLoop C scr c sigs keys = (.ok true, c') ↔ Matches C scr c sigs keys c' := by
  constructor
  · intro h
    induction keys generalizing c sigs with
    | nil =>
      cases sigs with
      | nil => simp [msLoop] at h; subst h; exact .done _ _
      | cons s ss => simp [msLoop] at h
    | cons k ks ih =>
      cases sigs with
      | nil => simp [msLoop] at h; subst h; exact .done _ _
      | cons s ss =>
        rw [msLoop] at h
        rcases hc : C.checkSig c s k scr with ⟨r, c1⟩
        rw [hc] at h
        cases r with
        | ok b =>
          cases b with
          | true => exact .hit hc (ih _ _ h)
          | false => exact .miss hc (ih _ _ h)
        | err e => simp at h
        | panic p => simp at h
  · intro h
    induction h with
    | done c keys => cases keys <;> simp [msLoop]
    | hit hc _ ih => rw [msLoop, hc]; exact ih
    | miss hc _ ih => rw [msLoop, hc]; exact ih

theorem Matches.length_le {σ : Type} {C : Checker σ} {scr : Bytes} {c c' : σ} {sigs keys : List Bytes}
    (h : Matches C scr c sigs keys c') : sigs.length ≤ keys.length := by
  induction h with
  | done => simp
  | hit _ _ ih => simp; omega
  | miss _ _ ih => simp at ih ⊢; omega

/-- the accepting keys form a subsequence of the key list, one per signature, in order; each was accepted
    in a checker state satisfying the invariant `P` -/
theorem Matches.sublist_of {σ : Type} {C : Checker σ} {scr : Bytes} {c c' : σ} {sigs keys : List Bytes}
    {P : σ → Prop} (hP : ∀ c s k, P c → P (C.checkSig c s k scr).2) (h : Matches C scr c sigs keys c') (hc : P c) :
    ∃ used : List Bytes, used.Sublist keys ∧ used.length = sigs.length ∧
      ∀ p ∈ sigs.zip used, ∃ c1, P c1 ∧ (C.checkSig c1 p.1 p.2 scr).1 = .ok true := by
  induction h with
  | done c keys => exact ⟨[], List.nil_sublist _, rfl, by simp⟩
  | @hit c c' c'' s k ss ks hcs _ ih =>
    have i1 := hP c s k hc
    rw [hcs] at i1
    obtain ⟨used, hsub, hlen, hall⟩ := ih i1
    refine ⟨k :: used, hsub.cons_cons k, by simp [hlen], ?_⟩
    intro p hp
    simp only [List.zip_cons_cons, List.mem_cons] at hp
    rcases hp with rfl | hp
    · exact ⟨c, hc, by rw [hcs]⟩
    · exact hall p hp
  | @miss c c' c'' s k ss ks hcs _ ih =>
    have i1 := hP c s k hc
    rw [hcs] at i1
    obtain ⟨used, hsub, hlen, hall⟩ := ih i1
    exact ⟨used, hsub.cons _, hlen, hall⟩

theorem Matches.sublist {σ : Type} {C : Checker σ} {scr : Bytes} {c c' : σ} {sigs keys : List Bytes}
    (h : Matches C scr c sigs keys c') :
    ∃ used : List Bytes, used.Sublist keys ∧ used.length = sigs.length ∧
      ∀ p ∈ sigs.zip used, ∃ c1, (C.checkSig c1 p.1 p.2 scr).1 = .ok true := by
  obtain ⟨used, hsub, hlen, hall⟩ := h.sublist_of (P := fun _ => True) (fun _ _ _ _ => trivial) trivial
  exact ⟨used, hsub, hlen, fun p hp => (hall p hp).imp fun _ h => h.2⟩

end CG.Proofs.Templates
