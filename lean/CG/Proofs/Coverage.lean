import CG.Proofs.Bip143Inj
import CG.Spec.SighashCoverage
/-!
Helper definitions and lemmas for `CG.Props.C03cov`: which parts of a transaction the BIP-143/FORKID
reference preimage (`CG.Spec.Bip143.preimageOf`) depends on, per sighash type.
-/
namespace CG.Proofs.Coverage
open CG CG.Model.TxSer CG.Spec.Bip143 CG.Proofs.Bip143Inj

/-- the negation of the named assumption -/
def Collision (dsha : Bytes → Bytes) : Prop := ∃ a b : Bytes, a ≠ b ∧ dsha a = dsha b

/-! What the three inner hashes are taken of. -/

def prevoutsBytes (tx : Tx) : Bytes := (tx.inputs.map (fun i => outpoint i.prevOutput)).flatten
def sequencesBytes (tx : Tx) : Bytes := (tx.inputs.map (fun i => le32 i.sequence)).flatten
def outputsBytes (tx : Tx) : Bytes := (tx.outputs.map txOut).flatten

/-- A collision of `dsha` between corresponding inner-hash inputs of the two transactions.  The pair is
    named because `Collision dsha` alone holds by counting for any total function with 32-byte results,
    so a conclusion `… ∨ Collision dsha` would say nothing. -/
def InnerCollision (dsha : Bytes → Bytes) (nIn : Nat) (tx tx' : Tx) : Prop :=
  ∃ a b : Bytes, a ≠ b ∧ dsha a = dsha b ∧
    ((a = prevoutsBytes tx' ∧ b = prevoutsBytes tx) ∨
     (a = sequencesBytes tx' ∧ b = sequencesBytes tx) ∨
     (a = outputsBytes tx' ∧ b = outputsBytes tx) ∨
     (∃ o o', tx.outputs[nIn]? = some o ∧ tx'.outputs[nIn]? = some o' ∧ a = txOut o' ∧ b = txOut o))

theorem InnerCollision.collision {dsha : Bytes → Bytes} {nIn : Nat} {tx tx' : Tx}
    (h : InnerCollision dsha nIn tx tx') : Collision dsha := by
  obtain ⟨a, b, h1, h2, _⟩ := h
  exact ⟨a, b, h1, h2⟩

/-- every field is in its wire range -/
structure TxOk (tx : Tx) : Prop where
  version : tx.version < 2 ^ 32
  lockTime : tx.lockTime < 2 ^ 32
  ins : ∀ i ∈ tx.inputs, i.prevOutput.hash.length = 32 ∧ i.prevOutput.index < 2 ^ 32 ∧ i.sequence < 2 ^ 32
  outs : ∀ o ∈ tx.outputs, InI64 o.satoshis ∧ o.lockScript.length < 2 ^ 64

/-- `tx` and `tx'` agree on every transaction field that type `ty` commits to for input `nIn`,
    the SINGLE output aside -/
structure AgreeCore (ty : UInt8) (nIn : Nat) (tx tx' : Tx) : Prop where
  version : tx'.version = tx.version
  lockTime : tx'.lockTime = tx.lockTime
  selfPrev : (tx'.inputs[nIn]?).map (·.prevOutput) = (tx.inputs[nIn]?).map (·.prevOutput)
  selfSeq : (tx'.inputs[nIn]?).map (·.sequence) = (tx.inputs[nIn]?).map (·.sequence)
  prevouts : anyoneCanPay ty = false → tx'.inputs.map (·.prevOutput) = tx.inputs.map (·.prevOutput)
  sequences : anyoneCanPay ty = false → isSingle ty = false → isNone ty = false →
    tx'.inputs.map (·.sequence) = tx.inputs.map (·.sequence)
  outputsAll : isSingle ty = false → isNone ty = false → tx'.outputs = tx.outputs

/-- ... and, for SINGLE, on the output at the input's index (present in both or in neither) -/
structure Agree (ty : UInt8) (nIn : Nat) (tx tx' : Tx) : Prop extends AgreeCore ty nIn tx tx' where
  outputSingle : isSingle ty = true → tx'.outputs[nIn]? = tx.outputs[nIn]?

theorem map_comp_congr {α β γ : Type} (f : β → γ) (g : α → β) {l l' : List α} (h : l'.map g = l.map g) :
    l'.map (fun a => f (g a)) = l.map (fun a => f (g a)) := by
  simpa [List.map_map, Function.comp_def] using congrArg (List.map f) h

theorem hashPrevouts_congr (dsha : Bytes → Bytes) {tx tx' : Tx} {ty : UInt8}
    (h : anyoneCanPay ty = false → tx'.inputs.map (·.prevOutput) = tx.inputs.map (·.prevOutput)) :
    hashPrevouts dsha tx' ty = hashPrevouts dsha tx ty := by
  unfold hashPrevouts
  cases hA : anyoneCanPay ty with
  | true => rfl
  | false => rw [map_comp_congr outpoint _ (h hA)]

theorem hashSequence_congr (dsha : Bytes → Bytes) {tx tx' : Tx} {ty : UInt8}
    (h : anyoneCanPay ty = false → isSingle ty = false → isNone ty = false →
      tx'.inputs.map (·.sequence) = tx.inputs.map (·.sequence)) :
    hashSequence dsha tx' ty = hashSequence dsha tx ty := by
  unfold hashSequence
  -- the sequences are hashed only if all three flags are off: the other seven cases are `rfl`
  cases hA : anyoneCanPay ty <;> cases hS : isSingle ty <;> cases hN : isNone ty <;> try rfl
  rw [map_comp_congr le32 _ (h hA hS hN)]

theorem hashOutputs_congr (dsha : Bytes → Bytes) {tx tx' : Tx} {nIn : Nat} {ty : UInt8}
    (h1 : isSingle ty = false → isNone ty = false → tx'.outputs = tx.outputs)
    (h2 : isSingle ty = true → tx'.outputs[nIn]? = tx.outputs[nIn]?) :
    hashOutputs dsha tx' nIn ty = hashOutputs dsha tx nIn ty := by
  unfold hashOutputs
  cases hS : isSingle ty with
  | false =>
    cases hN : isNone ty with
    | false => rw [h1 hS hN]
    | true => rfl
  | true =>
    simp only [Bool.not_true, Bool.false_and, Bool.false_eq_true, if_false, if_true]
    rw [h2 hS]

theorem preimage_eq_of_agree (dsha : Bytes → Bytes) {ty : UInt8} {nIn : Nat} {tx tx' : Tx}
    (h : Agree ty nIn tx tx') (sc : Bytes) (amt : Int) :
    preimageOf dsha tx' nIn sc amt ty = preimageOf dsha tx nIn sc amt ty := by
  unfold preimageOf
  rw [hashPrevouts_congr dsha h.prevouts, hashSequence_congr dsha h.sequences,
    hashOutputs_congr dsha h.outputsAll h.outputSingle, h.version, h.lockTime]
  -- of the signed input only the outpoint and the sequence enter the preimage; `selfPrev` says that
  -- the input is missing in both transactions or in neither
  have h1 := h.selfPrev
  have h2 := h.selfSeq
  cases h' : tx'.inputs[nIn]? with
  | none =>
    cases h'' : tx.inputs[nIn]? with
    | none => rfl
    | some i => simp [h', h''] at h1
  | some i' =>
    cases h'' : tx.inputs[nIn]? with
    | none => simp [h', h''] at h1
    | some i =>
      simp only [h', h'', Option.map_some, Option.some.injEq] at h1 h2
      simp only [h1, h2]

theorem flatten_map_inj {α β : Type} (f : β → Bytes) (g : α → β) (P : β → Prop) (hne : ∀ b, f b ≠ [])
    (hpre : ∀ a b r r', P a → P b → f a ++ r = f b ++ r' → a = b ∧ r = r') :
    ∀ l l' : List α, (∀ a ∈ l, P (g a)) → (∀ a ∈ l', P (g a)) →
      (l.map fun a => f (g a)).flatten = (l'.map fun a => f (g a)).flatten → l.map g = l'.map g := by
  intro l
  induction l with
  | nil =>
    intro l' _ _ h
    cases l' with
    | nil => rfl
    | cons b t =>
      simp only [List.map_nil, List.flatten_nil, List.map_cons, List.flatten_cons] at h
      exact absurd (List.append_eq_nil_iff.mp h.symm).1 (hne _)
  | cons a t ih =>
    intro l' hl hl' h
    cases l' with
    | nil =>
      simp only [List.map_nil, List.flatten_nil, List.map_cons, List.flatten_cons] at h
      exact absurd (List.append_eq_nil_iff.mp h).1 (hne _)
    | cons b t' =>
      simp only [List.map_cons, List.flatten_cons] at h
      obtain ⟨e1, e2⟩ := hpre _ _ _ _ (hl a (by simp)) (hl' b (by simp)) h
      rw [List.map_cons, List.map_cons, e1,
        ih t' (fun x hx => hl x (by simp [hx])) (fun x hx => hl' x (by simp [hx])) e2]

theorem outpoint_pre (a b : OutPoint) (r r' : Bytes)
    (ha : a.hash.length = 32 ∧ a.index < 2 ^ 32) (hb : b.hash.length = 32 ∧ b.index < 2 ^ 32)
    (h : outpoint a ++ r = outpoint b ++ r') : a = b ∧ r = r' := by
  unfold outpoint at h
  obtain ⟨e, er⟩ := List.append_inj h (by simp [le32, ha.1, hb.1])
  obtain ⟨e1, e2⟩ := List.append_inj e (by rw [ha.1, hb.1])
  have e3 := le32_inj _ _ ha.2 hb.2 e2
  cases a
  cases b
  cases e1
  cases e3
  exact ⟨rfl, er⟩

theorem le32_pre (a b : Nat) (r r' : Bytes) (ha : a < 2 ^ 32) (hb : b < 2 ^ 32)
    (h : le32 a ++ r = le32 b ++ r') : a = b ∧ r = r' := by
  obtain ⟨e, er⟩ := List.append_inj h (by simp [le32])
  exact ⟨le32_inj _ _ ha hb e, er⟩

theorem txOut_pre (a b : TxOut) (r r' : Bytes)
    (ha : InI64 a.satoshis ∧ a.lockScript.length < 2 ^ 64) (hb : InI64 b.satoshis ∧ b.lockScript.length < 2 ^ 64)
    (h : txOut a ++ r = txOut b ++ r') : a = b ∧ r = r' := by
  unfold txOut at h
  simp only [List.append_assoc] at h
  obtain ⟨e1, h⟩ := List.append_inj h (by simp [le64s])
  have elen := compactSize_inj _ _ ha.2 hb.2 _ _ h
  rw [elen] at h
  have h := List.append_cancel_left h
  obtain ⟨e2, er⟩ := List.append_inj h elen
  have e3 := le64s_inj _ _ ha.1 hb.1 e1
  cases a
  cases b
  cases e2
  cases e3
  exact ⟨rfl, er⟩

theorem le32_ne_nil (x : Nat) : le32 x ≠ [] :=
  List.ne_nil_of_length_pos (by simp [le32])

theorem outpoint_ne_nil (o : OutPoint) : outpoint o ≠ [] := by
  unfold outpoint
  intro h
  exact le32_ne_nil _ (List.append_eq_nil_iff.mp h).2

theorem txOut_ne_nil (o : TxOut) : txOut o ≠ [] := by
  unfold txOut
  intro h
  have := congrArg List.length h
  simp [le64s] at this

theorem txOut_inj (a b : TxOut)
    (ha : InI64 a.satoshis ∧ a.lockScript.length < 2 ^ 64) (hb : InI64 b.satoshis ∧ b.lockScript.length < 2 ^ 64)
    (h : txOut a = txOut b) : a = b :=
  (txOut_pre a b [] [] ha hb (by rw [h])).1

theorem hashPrevouts_bind (dsha : Bytes → Bytes) (nIn : Nat) {tx tx' : Tx} {ty : UInt8} (ok : TxOk tx)
    (ok' : TxOk tx') (h : hashPrevouts dsha tx' ty = hashPrevouts dsha tx ty) :
    InnerCollision dsha nIn tx tx' ∨
      (anyoneCanPay ty = false → tx'.inputs.map (·.prevOutput) = tx.inputs.map (·.prevOutput)) := by
  cases hA : anyoneCanPay ty with
  | true => exact Or.inr nofun
  | false =>
    unfold hashPrevouts at h
    simp only [hA, Bool.not_false, if_true] at h
    by_cases hb : prevoutsBytes tx' = prevoutsBytes tx
    · exact Or.inr fun _ => flatten_map_inj outpoint (fun i : TxIn => i.prevOutput)
        (fun o => o.hash.length = 32 ∧ o.index < 2 ^ 32)
        outpoint_ne_nil outpoint_pre _ _ (fun i hi => ⟨(ok'.ins i hi).1, (ok'.ins i hi).2.1⟩)
        (fun i hi => ⟨(ok.ins i hi).1, (ok.ins i hi).2.1⟩) hb
    · exact Or.inl ⟨_, _, hb, h, Or.inl ⟨rfl, rfl⟩⟩

theorem hashSequence_bind (dsha : Bytes → Bytes) (nIn : Nat) {tx tx' : Tx} {ty : UInt8} (ok : TxOk tx)
    (ok' : TxOk tx') (h : hashSequence dsha tx' ty = hashSequence dsha tx ty) :
    InnerCollision dsha nIn tx tx' ∨ (anyoneCanPay ty = false → isSingle ty = false → isNone ty = false →
      tx'.inputs.map (·.sequence) = tx.inputs.map (·.sequence)) := by
  by_cases hc : anyoneCanPay ty = false ∧ isSingle ty = false ∧ isNone ty = false
  · obtain ⟨hA, hS, hN⟩ := hc
    unfold hashSequence at h
    simp only [hA, hS, hN, Bool.not_false, Bool.and_self, if_true] at h
    by_cases hb : sequencesBytes tx' = sequencesBytes tx
    · exact Or.inr fun _ _ _ => flatten_map_inj le32 (fun i : TxIn => i.sequence) (· < 2 ^ 32) le32_ne_nil le32_pre _ _
        (fun i hi => (ok'.ins i hi).2.2) (fun i hi => (ok.ins i hi).2.2) hb
    · exact Or.inl ⟨_, _, hb, h, Or.inr (Or.inl ⟨rfl, rfl⟩)⟩
  · exact Or.inr fun a b c => absurd ⟨a, b, c⟩ hc

theorem hashOutputs_bind (dsha : Bytes → Bytes) {tx tx' : Tx} {nIn : Nat} {ty : UInt8} (ok : TxOk tx)
    (ok' : TxOk tx') (h : hashOutputs dsha tx' nIn ty = hashOutputs dsha tx nIn ty) :
    InnerCollision dsha nIn tx tx' ∨
      ((isSingle ty = false → isNone ty = false → tx'.outputs = tx.outputs) ∧
       (isSingle ty = true → ∀ o o', tx.outputs[nIn]? = some o → tx'.outputs[nIn]? = some o' → o' = o)) := by
  unfold hashOutputs at h
  cases hS : isSingle ty with
  | false =>
    cases hN : isNone ty with
    | true => exact Or.inr ⟨fun _ => nofun, nofun⟩
    | false =>
      simp only [hS, hN, Bool.not_false, Bool.and_self, if_true] at h
      by_cases hb : outputsBytes tx' = outputsBytes tx
      · right
        refine ⟨fun _ _ => ?_, nofun⟩
        simpa using flatten_map_inj txOut id (fun o => InI64 o.satoshis ∧ o.lockScript.length < 2 ^ 64)
          txOut_ne_nil txOut_pre _ _ ok'.outs ok.outs hb
      · exact Or.inl ⟨_, _, hb, h, Or.inr (Or.inr (Or.inl ⟨rfl, rfl⟩))⟩
  | true =>
    simp only [hS, Bool.not_true, Bool.false_and, Bool.false_eq_true, if_false, if_true] at h
    by_cases hc : ∃ o o', tx.outputs[nIn]? = some o ∧ tx'.outputs[nIn]? = some o' ∧ txOut o' ≠ txOut o
    · obtain ⟨o, o', h1, h2, hne⟩ := hc
      rw [h1, h2] at h
      exact Or.inl ⟨_, _, hne, h, Or.inr (Or.inr (Or.inr ⟨o, o', h1, h2, rfl, rfl⟩))⟩
    · right
      refine ⟨nofun, fun _ o o' h1 h2 => ?_⟩
      have : txOut o' = txOut o := by
        apply Classical.byContradiction
        intro hne
        exact hc ⟨o, o', h1, h2, hne⟩
      exact txOut_inj o' o (ok'.outs o' (List.mem_of_getElem? h2)) (ok.outs o (List.mem_of_getElem? h1)) this

section
variable (dsha : Bytes → Bytes) (hl : ∀ b, (dsha b).length = 32)
  {tx tx' : Tx} {nIn : Nat} {sc sc' : Bytes} {amt amt' : Int} {ty ty' : UInt8}
  (ok : TxOk tx) (ok' : TxOk tx') (hin : nIn < tx.inputs.length) (hin' : nIn < tx'.inputs.length)
  (hsc : sc.length < 2 ^ 64) (hsc' : sc'.length < 2 ^ 64) (ha : InI64 amt) (ha' : InI64 amt')
include hl ok ok' hin hin' hsc hsc' ha ha'

/-- For SINGLE this gives only: if both have an output at index `nIn`, it is the same output.
    Proof: unique decodability of the preimage (`ser_inj`), then of the three inner-hash inputs. -/
theorem agreeCore_or_collision
    (h : preimageOf dsha tx' nIn sc' amt' ty' = preimageOf dsha tx nIn sc amt ty) :
    InnerCollision dsha nIn tx tx' ∨ (sc' = sc ∧ amt' = amt ∧ ty' = ty ∧ AgreeCore ty nIn tx tx' ∧
      (isSingle ty = true → ∀ o o', tx.outputs[nIn]? = some o → tx'.outputs[nIn]? = some o' → o' = o)) := by
  have hi : tx.inputs[nIn]? = some tx.inputs[nIn] := List.getElem?_eq_getElem hin
  have hi' : tx'.inputs[nIn]? = some tx'.inputs[nIn] := List.getElem?_eq_getElem hin'
  have m := List.getElem_mem hin
  have m' := List.getElem_mem hin'
  rw [preimageOf_eq_ser dsha tx nIn _ sc amt ty hi, preimageOf_eq_ser dsha tx' nIn _ sc' amt' ty' hi'] at h
  have hf := ser_inj _ _
    (fieldsOf_ok dsha hl tx' nIn _ sc' amt' ty' ok'.version ok'.lockTime (ok'.ins _ m').1 (ok'.ins _ m').2.1
      (ok'.ins _ m').2.2 hsc' ha')
    (fieldsOf_ok dsha hl tx nIn _ sc amt ty ok.version ok.lockTime (ok.ins _ m).1 (ok.ins _ m).2.1
      (ok.ins _ m).2.2 hsc ha)
    (Option.some.inj h)
  simp only [fieldsOf, Fields.mk.injEq] at hf
  obtain ⟨ev, ep, es, eo, esc, ea, eq, eout, elt, ety⟩ := hf
  subst ety
  rcases hashPrevouts_bind dsha nIn ok ok' ep with c | bp
  · exact Or.inl c
  rcases hashSequence_bind dsha nIn ok ok' es with c | bs
  · exact Or.inl c
  rcases hashOutputs_bind dsha ok ok' eout with c | ⟨bo1, bo2⟩
  · exact Or.inl c
  right
  refine ⟨esc, ea, rfl, ⟨ev, elt, ?_, ?_, bp, bs, bo1⟩, bo2⟩
  · rw [hi, hi', Option.map_some, Option.map_some, eo]
  · rw [hi, hi', Option.map_some, Option.map_some, eq]

/-- with the SINGLE output present in both transactions or in neither: full agreement -/
theorem agree_or_collision
    (hsame : isSingle ty = true → (tx'.outputs[nIn]?).isSome = (tx.outputs[nIn]?).isSome)
    (h : preimageOf dsha tx' nIn sc' amt' ty' = preimageOf dsha tx nIn sc amt ty) :
    InnerCollision dsha nIn tx tx' ∨ (sc' = sc ∧ amt' = amt ∧ ty' = ty ∧ Agree ty nIn tx tx') := by
  rcases agreeCore_or_collision dsha hl ok ok' hin hin' hsc hsc' ha ha' h with c | ⟨e1, e2, e3, core, bo2⟩
  · exact Or.inl c
  right
  refine ⟨e1, e2, e3, core, ?_⟩
  intro hS
  have hs := hsame hS
  cases h1 : tx.outputs[nIn]? with
  | none =>
    cases h2 : tx'.outputs[nIn]? with
    | none => rfl
    | some o' =>
      rw [h1, h2] at hs
      cases hs
  | some o =>
    cases h2 : tx'.outputs[nIn]? with
    | none =>
      rw [h1, h2] at hs
      cases hs
    | some o' => rw [bo2 hS o o' h1 h2]

/-- `agreeCore_or_collision` read contrapositively -/
theorem differ_or_collision
    (hno : sc' = sc → amt' = amt → ty' = ty → AgreeCore ty nIn tx tx' →
      (isSingle ty = true → ∀ o o', tx.outputs[nIn]? = some o → tx'.outputs[nIn]? = some o' → o' = o) → False) :
    preimageOf dsha tx' nIn sc' amt' ty' ≠ preimageOf dsha tx nIn sc amt ty ∨ InnerCollision dsha nIn tx tx' := by
  by_cases he : preimageOf dsha tx' nIn sc' amt' ty' = preimageOf dsha tx nIn sc amt ty
  · rcases agreeCore_or_collision dsha hl ok ok' hin hin' hsc hsc' ha ha' he with c | ⟨e1, e2, e3, core, bo⟩
    · exact Or.inr c
    · exact (hno e1 e2 e3 core bo).elim
  · exact Or.inl he

end

theorem map_set_same {α β : Type} (f : α → β) {l : List α} {j : Nat} {a : α} (x : α)
    (h : l[j]? = some a) (hf : f x = f a) : (l.set j x).map f = l.map f := by
  obtain ⟨hj, rfl⟩ := List.getElem?_eq_some_iff.mp h
  rw [List.map_set, hf, ← List.map_set, List.set_getElem_self]

theorem getElem?_set_map_ne {α β : Type} (f : α → β) {l : List α} {j : Nat} {a : α} (x : α)
    (h : l[j]? = some a) (hf : f x ≠ f a) : ((l.set j x)[j]?).map f ≠ (l[j]?).map f := by
  simpa [List.getElem?_set_self', h] using hf

theorem map_set_ne {α β : Type} (f : α → β) {l : List α} {j : Nat} {a : α} (x : α)
    (h : l[j]? = some a) (hf : f x ≠ f a) : (l.set j x).map f ≠ l.map f := fun e =>
  getElem?_set_map_ne f x h hf (by simpa only [List.getElem?_map] using congrArg (·[j]?) e)

theorem set_ne_self {α : Type} {l : List α} {j : Nat} {a : α} (x : α) (h : l[j]? = some a) (hx : x ≠ a) :
    l.set j x ≠ l := fun e =>
  map_set_ne id x h hx (by rw [List.map_id, List.map_id, e])

theorem isSingle_not_isNone {ty : UInt8} (h : isSingle ty = true) : isNone ty = false := by
  unfold isSingle at h
  unfold isNone
  rw [decide_eq_true_eq] at h
  rw [decide_eq_false_iff_not, h]
  decide

theorem Agree.refl (ty : UInt8) (nIn : Nat) (tx : Tx) : Agree ty nIn tx tx :=
  ⟨⟨rfl, rfl, rfl, rfl, fun _ => rfl, fun _ _ _ => rfl, fun _ _ => rfl⟩, fun _ => rfl⟩

theorem agree_set_input (ty : UInt8) (nIn : Nat) (tx : Tx) (j : Nat) (i x : TxIn) (hi : tx.inputs[j]? = some i)
    (hp : j = nIn ∨ anyoneCanPay ty = false → x.prevOutput = i.prevOutput)
    (hs : j = nIn ∨ (anyoneCanPay ty = false ∧ isSingle ty = false ∧ isNone ty = false) → x.sequence = i.sequence) :
    Agree ty nIn tx { tx with inputs := tx.inputs.set j x } := by
  refine ⟨⟨rfl, rfl, ?_, ?_, ?_, ?_, fun _ _ => rfl⟩, fun _ => rfl⟩
  · by_cases hj : j = nIn
    · rw [← List.getElem?_map, ← List.getElem?_map, map_set_same _ x hi (hp (Or.inl hj))]
    · simp only [List.getElem?_set_ne hj]
  · by_cases hj : j = nIn
    · rw [← List.getElem?_map, ← List.getElem?_map, map_set_same _ x hi (hs (Or.inl hj))]
    · simp only [List.getElem?_set_ne hj]
  · exact fun hA => map_set_same _ x hi (hp (Or.inr hA))
  · exact fun hA hS hN => map_set_same _ x hi (hs (Or.inr ⟨hA, hS, hN⟩))

theorem agree_append_inputs (ty : UInt8) (nIn : Nat) (tx : Tx) (extra : List TxIn)
    (hin : nIn < tx.inputs.length) (hA : anyoneCanPay ty = true) :
    Agree ty nIn tx { tx with inputs := tx.inputs ++ extra } := by
  refine ⟨⟨rfl, rfl, ?_, ?_, ?_, ?_, fun _ _ => rfl⟩, fun _ => rfl⟩
  · simp only [List.getElem?_append_left hin]
  · simp only [List.getElem?_append_left hin]
  · intro c
    rw [hA] at c
    cases c
  · intro c
    rw [hA] at c
    cases c

theorem agree_outputs (ty : UInt8) (nIn : Nat) (tx : Tx) (outs' : List TxOut)
    (h1 : isSingle ty = false → isNone ty = false → outs' = tx.outputs)
    (h2 : isSingle ty = true → outs'[nIn]? = tx.outputs[nIn]?) :
    Agree ty nIn tx { tx with outputs := outs' } :=
  ⟨⟨rfl, rfl, rfl, rfl, fun _ => rfl, fun _ _ _ => rfl, h1⟩, h2⟩

/-- `Mut nIn tx amt m tx' amt'`: the signing request (`tx'`, spent amount `amt'`) is obtained from
    (`tx`, `amt`) by the single-field mutation named `m` in `CG.Spec.SighashCoverage.covered`, input `nIn`
    being the signed one.  Same mutations, same preconditions as `mutated_spend` in `harness/src/c03.rs`
    (`out_add` presupposes an output at the signed input's index; `out_remove_last` that the last output
    is not that one), with arbitrary new values instead of `+1` / `-1` / `push`. -/
inductive Mut (nIn : Nat) (tx : Tx) (amt : Int) : String → Tx → Int → Prop
  | none : Mut nIn tx amt "none" tx amt
  | version (v : Nat) (h : v ≠ tx.version) : Mut nIn tx amt "version" { tx with version := v } amt
  | locktime (t : Nat) (h : t ≠ tx.lockTime) : Mut nIn tx amt "locktime" { tx with lockTime := t } amt
  | in_seq_self (i : TxIn) (s : Nat) (hi : tx.inputs[nIn]? = some i) (h : s ≠ i.sequence) :
      Mut nIn tx amt "in_seq_self" { tx with inputs := tx.inputs.set nIn { i with sequence := s } } amt
  | in_seq_other (j : Nat) (i : TxIn) (s : Nat) (hj : j ≠ nIn) (hi : tx.inputs[j]? = some i) (h : s ≠ i.sequence) :
      Mut nIn tx amt "in_seq_other" { tx with inputs := tx.inputs.set j { i with sequence := s } } amt
  | in_prev_self (i : TxIn) (o : OutPoint) (hi : tx.inputs[nIn]? = some i) (h : o ≠ i.prevOutput) :
      Mut nIn tx amt "in_prev_self" { tx with inputs := tx.inputs.set nIn { i with prevOutput := o } } amt
  | in_prev_other (j : Nat) (i : TxIn) (o : OutPoint) (hj : j ≠ nIn) (hi : tx.inputs[j]? = some i)
      (h : o ≠ i.prevOutput) :
      Mut nIn tx amt "in_prev_other" { tx with inputs := tx.inputs.set j { i with prevOutput := o } } amt
  | in_add (x : TxIn) : Mut nIn tx amt "in_add" { tx with inputs := tx.inputs ++ [x] } amt
  | out_amount_same (o : TxOut) (a : Int) (ho : tx.outputs[nIn]? = some o) (h : a ≠ o.satoshis) :
      Mut nIn tx amt "out_amount_same" { tx with outputs := tx.outputs.set nIn { o with satoshis := a } } amt
  | out_amount_other (j : Nat) (o : TxOut) (a : Int) (hj : j ≠ nIn) (ho : tx.outputs[j]? = some o)
      (h : a ≠ o.satoshis) :
      Mut nIn tx amt "out_amount_other" { tx with outputs := tx.outputs.set j { o with satoshis := a } } amt
  | out_script_same (o : TxOut) (s : Bytes) (ho : tx.outputs[nIn]? = some o) (h : s ≠ o.lockScript) :
      Mut nIn tx amt "out_script_same" { tx with outputs := tx.outputs.set nIn { o with lockScript := s } } amt
  | out_script_other (j : Nat) (o : TxOut) (s : Bytes) (hj : j ≠ nIn) (ho : tx.outputs[j]? = some o)
      (h : s ≠ o.lockScript) :
      Mut nIn tx amt "out_script_other" { tx with outputs := tx.outputs.set j { o with lockScript := s } } amt
  | out_add (o : TxOut) (hn : nIn < tx.outputs.length) :
      Mut nIn tx amt "out_add" { tx with outputs := tx.outputs ++ [o] } amt
  | out_remove_last (hn : nIn + 1 < tx.outputs.length) :
      Mut nIn tx amt "out_remove_last" { tx with outputs := tx.outputs.dropLast } amt
  | amount (a : Int) (h : a ≠ amt) : Mut nIn tx amt "amount" tx a
  | unlock_other (j : Nat) (i : TxIn) (u : Bytes) (hj : j ≠ nIn) (hi : tx.inputs[j]? = some i)
      (h : u ≠ i.unlockScript) :
      Mut nIn tx amt "unlock_other" { tx with inputs := tx.inputs.set j { i with unlockScript := u } } amt

/-! The table's type predicates are the reference preimage's. -/

theorem table_acp (ty : UInt8) : Spec.SighashCoverage.anyoneCanPay ty.toNat = anyoneCanPay ty := rfl

theorem table_single (ty : UInt8) : decide (Spec.SighashCoverage.base ty.toNat = 3) = isSingle ty := rfl

theorem table_isAll (ty : UInt8) : Spec.SighashCoverage.isAll ty.toNat = (!isSingle ty && !isNone ty) := by
  unfold Spec.SighashCoverage.isAll Spec.SighashCoverage.base isSingle isNone baseType
  by_cases h2 : ty.toNat % 32 = 2 <;> by_cases h3 : ty.toNat % 32 = 3 <;> simp [h2, h3]

/-- a table row `some b`, read in its two directions -/
theorem row_sound {r : Option Bool} {b : Bool} {P Q : Prop} (hr : r = some b) (hf : b = false → P)
    (ht : b = true → Q) : (r = some false → P) ∧ (r = some true → Q) := by
  subst hr
  exact ⟨fun c => hf (Option.some.inj c), fun c => ht (Option.some.inj c)⟩

/-! The table's Boolean entries (`A` ANYONECANPAY, `S` SINGLE, `N` NONE) read as case distinctions. -/

/-- `in_seq_other` not covered -/
theorem b3_false {A S N : Bool} (c : (!A && (!S && !N)) = false) : A = true ∨ N = true ∨ S = true := by
  cases A <;> cases S <;> cases N <;> simp_all

/-- an `out_*_other`, `out_add` or `out_remove_last` entry not covered -/
theorem bAll_false {S N : Bool} (c : (!S && !N) = false) : S = true ∨ N = true := by
  cases S <;> cases N <;> simp_all

/-- an `out_*_same` entry not covered -/
theorem bSame_false {S N : Bool} (c : ((!S && !N) || S) = false) : N = true := by
  cases S <;> cases N <;> simp_all

/-- an `out_*_same` entry covered -/
theorem bSame_true {S N : Bool} (c : ((!S && !N) || S) = true) : S = true ∨ (S = false ∧ N = false) := by
  cases S <;> cases N <;> simp_all

end CG.Proofs.Coverage
