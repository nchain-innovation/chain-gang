import CG.Spec.Bip143
import CG.Base.Lemmas
/-! Unique decodability of the BIP-143 preimage layout (used by `C02_preimage_injective`). -/
namespace CG.Proofs.Bip143Inj
open CG CG.Model.TxSer CG.Spec.Bip143

theorem le32_inj (x y : Nat) (hx : x < 2 ^ 32) (hy : y < 2 ^ 32) (h : le32 x = le32 y) : x = y :=
  natToLEn_inj (n := 4) hx hy h

def InI64 (x : Int) : Prop := -(2 ^ 63) ≤ x ∧ x < 2 ^ 63

theorem le64s_inj (x y : Int) (hx : InI64 x) (hy : InI64 y) (h : le64s x = le64s y) : x = y := by
  unfold le64s at h
  obtain ⟨hx1, hx2⟩ := hx
  obtain ⟨hy1, hy2⟩ := hy
  have key := natToLEn_inj (n := 8) (by split <;> omega) (by split <;> omega) h
  -- `key` equates the two's-complement codes `if 0 ≤ · then · else 2 ^ 64 + ·`: four sign cases, and
  -- with opposite signs the codes lie on different sides of `2 ^ 63`
  split at key <;> split at key <;> omega

/-- reads a CompactSize back from the front of a byte string: the tags 0xfd, 0xfe, 0xff announce
    2, 4, 8 little-endian bytes -/
def readCompactSize : Bytes → Nat
  | [] => 0
  | t :: r => if t.toNat < 0xfd then t.toNat else leToNat (r.take (2 ^ (t.toNat - 0xfc)))

theorem readCompactSize_compactSize (n : Nat) (hn : n < 2 ^ 64) (x : Bytes) :
    readCompactSize (compactSize n ++ x) = n := by
  have rd : ∀ k, n < 256 ^ k → leToNat ((natToLEn k n ++ x).take k) = n := fun k hk => by
    rw [List.take_left' (natToLEn_length k n), leToNat_natToLEn, Nat.mod_eq_of_lt hk]
  unfold compactSize
  split
  · have : n % 256 = n := by omega
    simp only [List.cons_append, readCompactSize, UInt8.toNat_ofNat', this, if_pos ‹n < 0xfd›]
  split
  · exact rd 2 (by omega)
  split
  · exact rd 4 (by omega)
  · exact rd 8 (by omega)

theorem compactSize_inj (a b : Nat) (ha : a < 2 ^ 64) (hb : b < 2 ^ 64) (x y : Bytes)
    (h : compactSize a ++ x = compactSize b ++ y) : a = b := by
  have := congrArg readCompactSize h
  rwa [readCompactSize_compactSize a ha, readCompactSize_compactSize b hb] at this

theorem hashPrevouts_len (dsha : Bytes → Bytes) (hl : ∀ b, (dsha b).length = 32) (tx : Tx) (ty : UInt8) :
    (hashPrevouts dsha tx ty).length = 32 := by
  unfold hashPrevouts
  split <;> simp [hl, zeros32]

theorem hashSequence_len (dsha : Bytes → Bytes) (hl : ∀ b, (dsha b).length = 32) (tx : Tx) (ty : UInt8) :
    (hashSequence dsha tx ty).length = 32 := by
  unfold hashSequence
  split <;> simp [hl, zeros32]

theorem hashOutputs_len (dsha : Bytes → Bytes) (hl : ∀ b, (dsha b).length = 32) (tx : Tx) (n : Nat) (ty : UInt8) :
    (hashOutputs dsha tx n ty).length = 32 := by
  unfold hashOutputs
  split
  · simp [hl]
  · split
    · split <;> simp [hl, zeros32]
    · simp [zeros32]

/-- the fields of a BIP-143 preimage -/
structure Fields where
  version : Nat
  hashPrevouts : Bytes
  hashSequence : Bytes
  outpoint : OutPoint
  scriptCode : Bytes
  amount : Int
  sequence : Nat
  hashOutputs : Bytes
  lockTime : Nat
  ty : UInt8

def Fields.Ok (f : Fields) : Prop :=
  f.version < 2 ^ 32 ∧ f.hashPrevouts.length = 32 ∧ f.hashSequence.length = 32 ∧
  f.outpoint.hash.length = 32 ∧ f.outpoint.index < 2 ^ 32 ∧ f.scriptCode.length < 2 ^ 64 ∧
  InI64 f.amount ∧ f.sequence < 2 ^ 32 ∧ f.hashOutputs.length = 32 ∧ f.lockTime < 2 ^ 32

def Fields.ser (f : Fields) : Bytes :=
  le32 f.version ++ (f.hashPrevouts ++ (f.hashSequence ++ ((f.outpoint.hash ++ le32 f.outpoint.index) ++
    (compactSize f.scriptCode.length ++ (f.scriptCode ++ (le64s f.amount ++ (le32 f.sequence ++
      (f.hashOutputs ++ (le32 f.lockTime ++ le32 f.ty.toNat)))))))))

theorem ser_inj (f g : Fields) (hf : f.Ok) (hg : g.Ok) (h : f.ser = g.ser) : f = g := by
  obtain ⟨f1, f2, f3, f4, f5, f6, f7, f8, f9, f10⟩ := hf
  obtain ⟨g1, g2, g3, g4, g5, g6, g7, g8, g9, g10⟩ := hg
  unfold Fields.ser at h
  obtain ⟨e1, h⟩ := List.append_inj h (by simp [le32])
  obtain ⟨e2, h⟩ := List.append_inj h (by rw [f2, g2])
  obtain ⟨e3, h⟩ := List.append_inj h (by rw [f3, g3])
  obtain ⟨e4, h⟩ := List.append_inj h (by simp [le32, f4, g4])
  obtain ⟨e4a, e4b⟩ := List.append_inj e4 (by rw [f4, g4])
  have elen : f.scriptCode.length = g.scriptCode.length := compactSize_inj _ _ f6 g6 _ _ h
  rw [elen] at h
  have h := List.append_cancel_left h
  obtain ⟨e5, h⟩ := List.append_inj h elen
  obtain ⟨e6, h⟩ := List.append_inj h (by simp [le64s])
  obtain ⟨e7, h⟩ := List.append_inj h (by simp [le32])
  obtain ⟨e8, h⟩ := List.append_inj h (by rw [f9, g9])
  obtain ⟨e9, e10⟩ := List.append_inj h (by simp [le32])
  have v := le32_inj _ _ f1 g1 e1
  have idx := le32_inj _ _ f5 g5 e4b
  have amt := le64s_inj _ _ f7 g7 e6
  have sq := le32_inj _ _ f8 g8 e7
  have lt := le32_inj _ _ f10 g10 e9
  have tyn := le32_inj _ _ (by have := f.ty.toNat_lt; omega) (by have := g.ty.toNat_lt; omega) e10
  have ty : f.ty = g.ty := UInt8.toNat_inj.mp tyn
  obtain ⟨_, _, _, ⟨_, _⟩, _, _, _, _, _, _⟩ := f
  obtain ⟨_, _, _, ⟨_, _⟩, _, _, _, _, _, _⟩ := g
  simp only [Fields.mk.injEq, OutPoint.mk.injEq]
  exact ⟨v, e2, e3, ⟨e4a, idx⟩, e5, amt, sq, e8, lt, ty⟩

def fieldsOf (dsha : Bytes → Bytes) (tx : Tx) (nIn : Nat) (inp : TxIn) (sc : Bytes) (amount : Int)
    (ty : UInt8) : Fields :=
  { version := tx.version, hashPrevouts := hashPrevouts dsha tx ty, hashSequence := hashSequence dsha tx ty,
    outpoint := inp.prevOutput, scriptCode := sc, amount := amount, sequence := inp.sequence,
    hashOutputs := hashOutputs dsha tx nIn ty, lockTime := tx.lockTime, ty := ty }

theorem fieldsOf_ok (dsha : Bytes → Bytes) (hl : ∀ b, (dsha b).length = 32) (tx : Tx) (nIn : Nat) (inp : TxIn)
    (sc : Bytes) (amount : Int) (ty : UInt8) (hv : tx.version < 2 ^ 32) (hlt : tx.lockTime < 2 ^ 32)
    (hh : inp.prevOutput.hash.length = 32) (hx : inp.prevOutput.index < 2 ^ 32) (hq : inp.sequence < 2 ^ 32)
    (hsc : sc.length < 2 ^ 64) (ha : InI64 amount) : (fieldsOf dsha tx nIn inp sc amount ty).Ok :=
  ⟨hv, hashPrevouts_len dsha hl _ _, hashSequence_len dsha hl _ _, hh, hx, hsc, ha, hq,
    hashOutputs_len dsha hl _ _ _, hlt⟩

theorem preimageOf_eq_ser (dsha : Bytes → Bytes) (tx : Tx) (nIn : Nat) (inp : TxIn) (sc : Bytes)
    (amount : Int) (ty : UInt8) (h : tx.inputs[nIn]? = some inp) :
    preimageOf dsha tx nIn sc amount ty = some (fieldsOf dsha tx nIn inp sc amount ty).ser := by
  unfold preimageOf Fields.ser fieldsOf
  rw [h]
  simp [outpoint, List.append_assoc]

end CG.Proofs.Bip143Inj
