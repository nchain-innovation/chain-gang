import CG.Model.ScriptText
import CG.Proofs.ScriptBuild
/-!
Helper lemmas for the text-form part of C16: hex round trip, lexing of encoded items, joining and
splitting of tokens, decoding of the printer's tokens, and the round trip `parse (print s) = s` under the
sufficient safety condition `safe`.
-/
namespace CG.Proofs.ScriptText
open CG CG.Model.ScriptNum CG.Model.ScriptBuild CG.Model.ScriptText CG.Proofs.ScriptBuild

theorem hexVal_hexDigit : ∀ n : Fin 16, hexVal (hexDigit n.val) = some n.val := by decide

theorem hexEnc_cons (b : UInt8) (r : Bytes) :
    hexEnc (b :: r) = hexDigit (b.toNat / 16) :: hexDigit (b.toNat % 16) :: hexEnc r := by
  simp [hexEnc, hexByte]

theorem hexDecGo_enc (bs : Bytes) (acc : Bytes) : hexDecGo (hexEnc bs) acc = some (acc.reverse ++ bs) := by
  induction bs generalizing acc with
  | nil => simp [hexEnc, hexDecGo]
  | cons b r ih =>
    rw [hexEnc_cons]
    have hb := b.toNat_lt
    have h1 := hexVal_hexDigit ⟨b.toNat / 16, by omega⟩
    have h2 := hexVal_hexDigit ⟨b.toNat % 16, by omega⟩
    simp only at h1 h2
    simp only [hexDecGo, h1, h2]
    rw [ih]
    have : UInt8.ofNat (16 * (b.toNat / 16) + b.toNat % 16) = b := by
      rw [show 16 * (b.toNat / 16) + b.toNat % 16 = b.toNat by omega]; simp
    simp [this]

theorem hexDec_enc (bs : Bytes) : hexDec (hexEnc bs) = some bs := by
  simp [hexDec, hexDecGo_enc]

theorem lexOne_bytes (it : Item) (rest : Bytes) (h : it.wf = true) : lexOne (it.bytes ++ rest) = (it, rest) := by
  cases it with
  | op b =>
    simp only [Item.wf, Bool.not_eq_true', Bool.and_eq_false_iff, decide_eq_false_iff_not] at h
    simp only [Item.bytes, List.cons_append, List.nil_append, lexOne]
    rw [if_neg (by omega), if_neg (by omega), if_neg (by omega), if_neg (by omega)]
  | push d =>
    simp only [Item.wf, Bool.and_eq_true, decide_eq_true_eq] at h
    simp only [Item.bytes, List.cons_append, lexOne, toNat_ofNat_lt (show d.length < 256 by omega)]
    rw [if_pos (by omega), if_pos (by simp)]
    simp
  | pd1 d =>
    simp only [Item.wf, decide_eq_true_eq] at h
    have hl := leToNat_natToLEn_of_lt (w := 1) (n := d.length) (by omega)
    obtain ⟨a, hf⟩ : ∃ a, natToLEn 1 d.length = [a] := ⟨_, rfl⟩
    rw [hf, leToNat, leToNat] at hl
    rw [Item.bytes, hf]
    have hn : a.toNat = d.length := by omega
    simp only [List.cons_append, List.nil_append, lexOne]
    rw [if_neg (by decide), if_pos (by decide), hn, if_pos (by simp)]
    simp
  | pd2 d =>
    simp only [Item.wf, decide_eq_true_eq] at h
    have hl := leToNat_natToLEn_of_lt (w := 2) (n := d.length) (by omega)
    obtain ⟨a, b, hf⟩ : ∃ a b, natToLEn 2 d.length = [a, b] := ⟨_, _, rfl⟩
    rw [hf] at hl
    simp only [leToNat] at hl
    rw [Item.bytes, hf]
    have hn : a.toNat + b.toNat * 256 = d.length := by omega
    simp only [List.cons_append, List.nil_append, lexOne]
    rw [if_neg (by decide), if_neg (by decide), if_pos (by decide), hn, if_pos (by simp)]
    simp
  | pd4 d =>
    simp only [Item.wf, decide_eq_true_eq] at h
    have hl := leToNat_natToLEn_of_lt (w := 4) (n := d.length) (by omega)
    obtain ⟨a, b, c, e, hf⟩ : ∃ a b c e, natToLEn 4 d.length = [a, b, c, e] := ⟨_, _, _, _, rfl⟩
    rw [hf] at hl
    simp only [leToNat] at hl
    rw [Item.bytes, hf]
    have hn : a.toNat + b.toNat * 256 + c.toNat * 65536 + e.toNat * 16777216 = d.length := by omega
    simp only [List.cons_append, List.nil_append, lexOne]
    rw [if_neg (by decide), if_neg (by decide), if_neg (by decide), if_pos (by decide), hn, if_pos (by simp)]
    simp
  | trunc r => simp [Item.wf] at h

theorem bytes_ne_nil (it : Item) (h : it.wf = true) : it.bytes ≠ [] := by
  cases it <;> simp [Item.bytes, Item.wf] at h ⊢

theorem encode_cons (it : Item) (r : List Item) : encode (it :: r) = it.bytes ++ encode r := by
  simp [encode]

theorem lexFuel_encode (items : List Item) (f : Nat) (hwf : ∀ it ∈ items, it.wf = true)
    (hf : (encode items).length ≤ f) : lexFuel f (encode items) = items := by
  induction items generalizing f with
  | nil => cases f <;> simp [encode, lexFuel]
  | cons it r ih =>
    have hit := hwf it (by simp)
    have hne := bytes_ne_nil it hit
    rw [encode_cons] at hf ⊢
    obtain ⟨b, tl, hb⟩ : ∃ b tl, it.bytes ++ encode r = b :: tl := by
      cases hx : it.bytes with
      | nil => exact absurd hx hne
      | cons b tl => exact ⟨b, tl ++ encode r, rfl⟩
    have hlen : 1 ≤ it.bytes.length := by
      cases hx : it.bytes with
      | nil => exact absurd hx hne
      | cons _ _ => simp
    cases f with
    | zero => simp only [List.length_append] at hf; omega
    | succ f =>
      rw [hb]
      simp only [lexFuel]
      rw [← hb, lexOne_bytes it (encode r) hit]
      simp only []
      rw [ih f (fun x hx => hwf x (by simp [hx])) (by simp only [List.length_append] at hf; omega)]

theorem lex_encode (items : List Item) (hwf : ∀ it ∈ items, it.wf = true) : lex (encode items) = items :=
  lexFuel_encode items _ hwf (Nat.le_refl _)

/-- such a token survives the separator split -/
def Clean (t : Str) : Prop := t ≠ [] ∧ ∀ c ∈ t, isSep c = false

theorem joinSp_cons_cons (x y : Str) (r : List Str) : joinSp (x :: y :: r) = x ++ ' ' :: joinSp (y :: r) := by
  simp [joinSp]

theorem joinSp_single (x : Str) : joinSp [x] = x := by simp [joinSp]

theorem joinSp_append (a b : List Str) (ha : a ≠ []) (hb : b ≠ []) :
    joinSp (a ++ b) = joinSp a ++ ' ' :: joinSp b := by
  cases a with
  | nil => exact absurd rfl ha
  | cons t ra =>
    cases b with
    | nil => exact absurd rfl hb
    | cons u rb => simp [joinSp]

theorem joinSp_flatten {α : Type} (f : α → List Str) (xs : List α) (hne : ∀ x ∈ xs, f x ≠ []) :
    joinSp (xs.map fun x => joinSp (f x)) = joinSp (xs.flatMap f) := by
  induction xs with
  | nil => rfl
  | cons x r ih =>
    cases r with
    | nil => simp [joinSp_single]
    | cons y r' =>
      have hx := hne x (by simp)
      have hy := hne y (by simp)
      have hr : (y :: r').flatMap f ≠ [] := by
        simp only [List.flatMap_cons]
        intro h
        exact hy (List.append_eq_nil_iff.mp h).1
      have ih' := ih (fun z hz => hne z (by simp [hz]))
      rw [List.map_cons] at ih'
      rw [List.map_cons, List.map_cons, joinSp_cons_cons, ih',
        show List.flatMap f (x :: y :: r') = f x ++ List.flatMap f (y :: r') from List.flatMap_cons,
        joinSp_append _ _ hx hr]

theorem splitGo_tok (t rest cur : Str) (acc : List Str) (h : ∀ c ∈ t, isSep c = false) :
    splitGo (t ++ rest) cur acc = splitGo rest (t.reverse ++ cur) acc := by
  induction t generalizing cur with
  | nil => rfl
  | cons c r ih =>
    have hc := h c (by simp)
    simp only [List.cons_append, splitGo, hc, Bool.false_eq_true, if_false]
    rw [ih _ (fun x hx => h x (by simp [hx]))]
    simp

theorem splitGo_rest (r : List Str) (t : Str) (acc : List Str) (ht : Clean t) (hr : ∀ x ∈ r, Clean x) :
    splitGo (r.flatMap fun x => ' ' :: x) t.reverse acc = acc.reverse ++ t :: r := by
  induction r generalizing t acc with
  | nil =>
    have : t.reverse.isEmpty = false := by
      cases t with
      | nil => exact absurd rfl ht.1
      | cons _ _ => simp
    simp [splitGo, this]
  | cons x r' ih =>
    have hx := hr x (by simp)
    have : t.reverse.isEmpty = false := by
      cases t with
      | nil => exact absurd rfl ht.1
      | cons _ _ => simp
    simp only [List.flatMap_cons, List.cons_append, splitGo, this]
    have hs : isSep ' ' = true := by decide
    simp only [hs, if_true, Bool.false_eq_true, if_false, List.reverse_reverse]
    rw [splitGo_tok x _ [] _ hx.2, List.append_nil, ih x _ hx (fun y hy => hr y (by simp [hy]))]
    simp

theorem splitSep_joinSp (toks : List Str) (h : ∀ t ∈ toks, Clean t) : splitSep (joinSp toks) = toks := by
  cases toks with
  | nil => simp [joinSp, splitSep, splitGo]
  | cons t r =>
    have ht := h t (by simp)
    unfold splitSep joinSp
    rw [splitGo_tok t _ [] _ ht.2, List.append_nil, splitGo_rest r t [] ht (fun x hx => h x (by simp [hx]))]
    simp

def cleanB (t : Str) : Bool := !t.isEmpty && t.all (fun c => !isSep c)

theorem clean_of_cleanB {t : Str} (h : cleanB t = true) : Clean t := by
  simp only [cleanB, Bool.and_eq_true, Bool.not_eq_true', List.all_eq_true] at h
  refine ⟨?_, fun c hc => h.2 c hc⟩
  intro e; subst e; simp at h

/-- what the round trip needs from the two name tables (all decidable; `goodTables_pinned` checks them
    for the tables generated from the current tree) -/
structure GoodTables (T : Tables) : Prop where
  named_clean : ∀ i : Fin 256, Named T (UInt8.ofNat i.val) = true → cleanB (opText T (UInt8.ofNat i.val)) = true
  pd1 : lookupName T pd1Name = some 76
  pd2 : lookupName T pd2Name = some 77
  pd4 : lookupName T pd4Name = some 78
  keys : T.parser.all (fun p => p.1.head? == some 'O') = true

theorem lookup_foldl_some (l : List (Str × Nat)) (w : Str) (acc : Option Nat) (v : Nat)
    (h : l.foldl (fun acc p => if p.1 = w then some p.2 else acc) acc = some v) :
    acc = some v ∨ ∃ p ∈ l, p.1 = w := by
  induction l generalizing acc with
  | nil => exact Or.inl h
  | cons p r ih =>
    simp only [List.foldl_cons] at h
    rcases ih _ h with h1 | ⟨q, hq, hw⟩
    · by_cases hp : p.1 = w
      · exact Or.inr ⟨p, by simp, hp⟩
      · rw [if_neg hp] at h1; exact Or.inl h1
    · exact Or.inr ⟨q, by simp [hq], hw⟩

theorem lookupName_head {T : Tables} (G : GoodTables T) {w : Str} {v : Nat} (h : lookupName T w = some v) :
    w.head? = some 'O' := by
  rcases lookup_foldl_some _ _ _ _ h with h0 | ⟨p, hp, hw⟩
  · cases h0
  · have := List.all_eq_true.mp G.keys p hp
    subst hw
    simpa using this

theorem named_clean {T : Tables} (G : GoodTables T) (b : UInt8) (h : Named T b = true) : Clean (opText T b) := by
  exact clean_of_cleanB
    (UInt8.forall_of_fin (P := fun b => Named T b = true → cleanB (opText T b) = true) G.named_clean b h)

/-- A string as one number (digits `c.toNat + 1`, base above every digit).  The kernel compares two numbers
    in one step and two strings character by character, so a sweep that looks every opcode's text up in
    the parser table is evaluated on these keys. -/
def strKey : Str → Nat
  | [] => 0
  | c :: r => c.toNat + 1 + 4294967297 * strKey r

theorem strKey_inj : ∀ {a b : Str}, strKey a = strKey b → a = b
  | [], [], _ => rfl
  | [], _ :: _, h => by simp only [strKey] at h; omega
  | _ :: _, [], h => by simp only [strKey] at h; omega
  | c :: r, c' :: r', h => by
    simp only [strKey] at h
    have hc := c.val.toNat_lt
    have hc' := c'.val.toNat_lt
    have h1 : c.toNat = c'.toNat := by simp only [Char.toNat] at *; omega
    have h2 : strKey r = strKey r' := by omega
    rw [Char.toNat_inj.mp h1, strKey_inj h2]

theorem lookupName_strKey (T : Tables) (w : Str) :
    lookupName T w
      = (T.parser.map fun p => (strKey p.1, p.2)).foldl (fun acc p => if p.1 = strKey w then some p.2 else acc) none := by
  rw [lookupName, List.foldl_map]
  congr
  funext acc p
  by_cases h : p.1 = w
  · rw [if_pos h, if_pos (congrArg strKey h)]
  · rw [if_neg h, if_neg (fun e => h (strKey_inj e))]

theorem decodeOp_named {T : Tables} (b : UInt8) (k : Nat) (h : Named T b = true) :
    decodeOp T (opText T b) k = .ok (.int b) := by
  have : lookupName T (opText T b) = some b.toNat := by simpa [Named] using h
  simp [decodeOp, this]

theorem decodeOp_name {T : Tables} (w : Str) (v k : Nat) (h : lookupName T w = some v) :
    decodeOp T w k = .ok (.int (UInt8.ofNat v)) := by
  simp [decodeOp, h]

theorem parseI64_hexTok (d : Bytes) : parseI64 (hexTok d) = none := by
  -- `0x…` is not a decimal number: the digits stop at `'x'`
  simp [hexTok, parseI64, parseDigits, digitVal]

theorem decodeOp_hex {T : Tables} (G : GoodTables T) (d : Bytes) (k : Nat) :
    decodeOp T (hexTok d) k = .ok (.bytes (if k > 0 then d else appendData [] d)) := by
  have hl : lookupName T (hexTok d) = none := by
    cases h : lookupName T (hexTok d) with
    | none => rfl
    | some v => have := lookupName_head G h; simp [hexTok] at this
  unfold decodeOp
  rw [hl, parseI64_hexTok]
  simp only [hexTok, hexDec_enc]
  split <;> rfl

theorem hexTok_clean (d : Bytes) : Clean (hexTok d) := by
  refine ⟨by simp [hexTok], ?_⟩
  intro c hc
  simp only [hexTok, List.mem_cons] at hc
  rcases hc with rfl | rfl | hc
  · decide
  · decide
  · simp only [hexEnc, List.mem_flatMap, hexByte, List.mem_cons, List.not_mem_nil, or_false] at hc
    obtain ⟨b, _, hb⟩ := hc
    have hb16 := b.toNat_lt
    have key : ∀ n : Fin 16, isSep (hexDigit n.val) = false := by decide
    rcases hb with rfl | rfl
    · exact key ⟨b.toNat / 16, by omega⟩
    · exact key ⟨b.toNat % 16, by omega⟩


theorem parseToks_cons {T : Tables} (w : Str) (r : List Str) (k : Nat) (c : Cmd) (cs : List Cmd)
    (h1 : decodeOp T w k = .ok c) (h2 : parseToks T r (handlePushdata T c k) = .ok cs) :
    parseToks T (w :: r) k = .ok (c :: cs) := by
  simp [parseToks, h1, h2]

theorem handle_bytes (T : Tables) (bs : Bytes) (k : Nat) : handlePushdata T (.bytes bs) k = k - 1 := rfl

theorem handle_op (T : Tables) (b : UInt8) (k : Nat) (h : (Item.op b).wf = true) :
    handlePushdata T (.int b) k = k - 1 := by
  simp only [Item.wf, Bool.not_eq_true', Bool.and_eq_false_iff, decide_eq_false_iff_not] at h
  simp only [handlePushdata, pushdataTokens]
  rw [if_neg (by omega), if_neg (by omega), if_neg (by omega)]

theorem commandsAsVec_cons (c : Cmd) (cs : List Cmd) : commandsAsVec (c :: cs) = c.bytesOf ++ commandsAsVec cs :=
  List.flatMap_cons

theorem commandsAsVec_pushdata (op : UInt8) (f d : Bytes) (cs : List Cmd) :
    commandsAsVec (.int op :: .bytes f :: .bytes d :: cs) = op :: (f ++ d) ++ commandsAsVec cs := by
  simp [commandsAsVec, Cmd.bytesOf]

/-- the three tokens of an OP_PUSHDATA item: the name sets the counter to `k' ≥ 2`, so both hex tokens are
    taken as raw bytes, and the counter is `k' - 2` afterwards -/
theorem parseToks_pushdata {T : Tables} (G : GoodTables T) (name : Str) (op k k' : Nat) (f d : Bytes)
    (rest : List Str) (cs : List Cmd) (hname : lookupName T name = some op)
    (hk : handlePushdata T (.int (UInt8.ofNat op)) k = k') (hk' : 2 ≤ k')
    (h : parseToks T rest (k' - 2) = .ok cs) :
    parseToks T (name :: hexTok f :: hexTok d :: rest) k
      = .ok (.int (UInt8.ofNat op) :: .bytes f :: .bytes d :: cs) := by
  refine parseToks_cons _ _ _ _ _ (decodeOp_name _ _ _ hname) ?_
  rw [hk]
  refine parseToks_cons _ _ _ _ _ (by rw [decodeOp_hex G, if_pos (by omega)]) ?_
  rw [handle_bytes]
  refine parseToks_cons _ _ _ _ _ (by rw [decodeOp_hex G, if_pos (by omega)]) ?_
  rw [handle_bytes, show k' - 1 - 1 = k' - 2 by omega]
  exact h

theorem parse_printToks {T : Tables} (G : GoodTables T) (items : List Item) (k : Nat)
    (hwf : ∀ it ∈ items, it.wf = true) (hs : safe T k items = true) :
    ∃ cs, parseToks T (printToks T items) k = .ok cs ∧ commandsAsVec cs = encode items := by
  induction items generalizing k with
  | nil => exact ⟨[], by simp [printToks, parseToks], by simp [commandsAsVec, encode]⟩
  | cons it r ih =>
    have hit := hwf it (by simp)
    have hr : ∀ x ∈ r, x.wf = true := fun x hx => hwf x (by simp [hx])
    have hpt : printToks T (it :: r) = itemToks T it ++ printToks T r := by simp [printToks]
    rw [hpt, encode_cons]
    cases it with
    | op b =>
      simp only [safe, Bool.and_eq_true] at hs
      obtain ⟨cs, h1, h2⟩ := ih (k - 1) hr hs.2
      exact ⟨.int b :: cs,
        parseToks_cons _ _ _ _ _ (decodeOp_named b k hs.1) (by rw [handle_op T b k hit]; exact h1),
        by rw [commandsAsVec_cons, h2]; rfl⟩
    | push d =>
      simp only [safe, Bool.and_eq_true, beq_iff_eq] at hs
      obtain ⟨hk, hs⟩ := hs
      subst hk
      obtain ⟨cs, h1, h2⟩ := ih 0 hr hs
      simp only [Item.wf, Bool.and_eq_true, decide_eq_true_eq] at hit
      refine ⟨.bytes (appendData [] d) :: cs,
        parseToks_cons _ _ _ _ _ (by rw [decodeOp_hex G]; rfl) (by rw [handle_bytes]; exact h1), ?_⟩
      rw [commandsAsVec_cons, h2, Cmd.bytesOf, appendData_direct [] d hit.1 hit.2]
      rfl
    | pd1 d =>
      simp only [safe] at hs
      obtain ⟨cs, h1, h2⟩ := ih 0 hr hs
      exact ⟨_, parseToks_pushdata G pd1Name 76 k 2 _ d _ cs G.pd1 rfl (Nat.le_refl 2) h1,
        by rw [commandsAsVec_pushdata, h2]; rfl⟩
    | pd2 d =>
      simp only [safe, Bool.and_eq_true, decide_eq_true_eq] at hs
      obtain ⟨cs, h1, h2⟩ := ih (T.pd2 - 2) hr hs.2
      exact ⟨_, parseToks_pushdata G pd2Name 77 k T.pd2 _ d _ cs G.pd2 rfl hs.1 h1,
        by rw [commandsAsVec_pushdata, h2]; rfl⟩
    | pd4 d =>
      simp only [safe, Bool.and_eq_true, decide_eq_true_eq] at hs
      obtain ⟨cs, h1, h2⟩ := ih (T.pd4 - 2) hr hs.2
      exact ⟨_, parseToks_pushdata G pd4Name 78 k T.pd4 _ d _ cs G.pd4 rfl hs.1 h1,
        by rw [commandsAsVec_pushdata, h2]; rfl⟩
    | trunc rest => simp [Item.wf] at hit

theorem pdName_clean : Clean pd1Name ∧ Clean pd2Name ∧ Clean pd4Name := by
  refine ⟨clean_of_cleanB (by decide), clean_of_cleanB (by decide), clean_of_cleanB (by decide)⟩

theorem itemToks_ne_nil (T : Tables) (it : Item) (h : it.wf = true) : itemToks T it ≠ [] := by
  cases it <;> simp [itemToks, Item.wf] at h ⊢

theorem printItem_wf (T : Tables) (it : Item) (h : it.wf = true) : printItem T it = joinSp (itemToks T it) := by
  cases it <;> simp [printItem, Item.wf] at h ⊢

theorem printString_encode (T : Tables) (items : List Item) (hwf : ∀ it ∈ items, it.wf = true) :
    printString T (encode items) = joinSp (printToks T items) := by
  unfold printString printToks
  rw [lex_encode items hwf]
  have : items.map (printItem T) = items.map (fun it => joinSp (itemToks T it)) :=
    List.map_congr_left (fun it hit => printItem_wf T it (hwf it hit))
  rw [this]
  exact joinSp_flatten (itemToks T) items (fun it hit => itemToks_ne_nil T it (hwf it hit))

def isTrunc : Item → Bool
  | .trunc _ => true
  | _ => false

theorem safe_mem {T : Tables} {k : Nat} {items : List Item} (hs : safe T k items = true) :
    ∀ it ∈ items, isTrunc it = false ∧ ∀ b, it = .op b → Named T b = true := by
  induction items generalizing k with
  | nil => intro it h; cases h
  | cons x r ih =>
    have hx : (isTrunc x = false ∧ ∀ b, x = .op b → Named T b = true) ∧ ∃ k', safe T k' r = true := by
      cases x <;> simp only [safe, Bool.and_eq_true] at hs
      · exact ⟨⟨rfl, fun b e => by cases e; exact hs.1⟩, _, hs.2⟩
      · exact ⟨⟨rfl, fun b e => by cases e⟩, _, hs.2⟩
      · exact ⟨⟨rfl, fun b e => by cases e⟩, _, hs⟩
      · exact ⟨⟨rfl, fun b e => by cases e⟩, _, hs.2⟩
      · exact ⟨⟨rfl, fun b e => by cases e⟩, _, hs.2⟩
      · cases hs
    obtain ⟨hx, k', hr⟩ := hx
    intro it hit
    rcases List.mem_cons.mp hit with rfl | h
    · exact hx
    · exact ih hr it h

theorem printToks_clean {T : Tables} (G : GoodTables T) (items : List Item)
    (hn : ∀ b, Item.op b ∈ items → Named T b = true) : ∀ t ∈ printToks T items, Clean t := by
  intro t ht
  simp only [printToks, List.mem_flatMap] at ht
  obtain ⟨it, hit, htk⟩ := ht
  obtain ⟨c1, c2, c4⟩ := pdName_clean
  cases it with
  | op b =>
    simp only [itemToks, List.mem_singleton] at htk
    subst htk
    exact named_clean G b (hn b hit)
  | push d => simp only [itemToks, List.mem_singleton] at htk; subst htk; exact hexTok_clean d
  | pd1 d =>
    simp only [itemToks, List.mem_cons, List.not_mem_nil, or_false] at htk
    rcases htk with rfl | rfl | rfl
    · exact c1
    · exact hexTok_clean _
    · exact hexTok_clean _
  | pd2 d =>
    simp only [itemToks, List.mem_cons, List.not_mem_nil, or_false] at htk
    rcases htk with rfl | rfl | rfl
    · exact c2
    · exact hexTok_clean _
    · exact hexTok_clean _
  | pd4 d =>
    simp only [itemToks, List.mem_cons, List.not_mem_nil, or_false] at htk
    rcases htk with rfl | rfl | rfl
    · exact c4
    · exact hexTok_clean _
    · exact hexTok_clean _
  | trunc rest => simp [itemToks] at htk

theorem roundTrip_safe {T : Tables} (G : GoodTables T) (items : List Item)
    (hwf : ∀ it ∈ items, it.wf = true) (hs : safe T 0 items = true) :
    roundTrip T (encode items) = .ok (encode items) := by
  unfold roundTrip parseString
  rw [printString_encode T items hwf,
    splitSep_joinSp _ (printToks_clean G items (fun b hb => (safe_mem hs _ hb).2 b rfl))]
  obtain ⟨cs, h1, h2⟩ := parse_printToks G items 0 hwf hs
  rw [h1]
  simp only [h2]

theorem opText_clean {T : Tables} (hlen : T.printer.length = 256) (hall : T.printer.all cleanB = true)
    (b : UInt8) : cleanB (opText T b) = true := by
  have hb : b.toNat < T.printer.length := hlen ▸ b.toNat_lt
  rw [opText, List.getD_eq_getElem?_getD, List.getElem?_eq_getElem hb, Option.getD_some]
  exact List.all_eq_true.mp hall _ (List.getElem_mem hb)

theorem goodTables_pinned : GoodTables pinned where
  -- every printer text is a clean token, named by the parser or not: one pass over the printer table
  named_clean := fun i _ => opText_clean (by decide +kernel) (by decide +kernel) _
  pd1 := by decide +kernel
  pd2 := by decide +kernel
  pd4 := by decide +kernel
  keys := by decide +kernel

/-- a pushdata length field read back -/
theorem le1 (l : UInt8) : natToLEn 1 l.toNat = [l] := by
  have := natToLEn_leToNat [l]
  simpa [leToNat] using this

theorem le2 (l0 l1 : UInt8) : natToLEn 2 (l0.toNat + l1.toNat * 256) = [l0, l1] := by
  have := natToLEn_leToNat [l0, l1]
  have e : leToNat [l0, l1] = l0.toNat + l1.toNat * 256 := by simp [leToNat]; omega
  rw [e] at this
  exact this

theorem le4 (l0 l1 l2 l3 : UInt8) :
    natToLEn 4 (l0.toNat + l1.toNat * 256 + l2.toNat * 65536 + l3.toNat * 16777216) = [l0, l1, l2, l3] := by
  have := natToLEn_leToNat [l0, l1, l2, l3]
  have e : leToNat [l0, l1, l2, l3] = l0.toNat + l1.toNat * 256 + l2.toNat * 65536 + l3.toNat * 16777216 := by
    simp [leToNat]; omega
  rw [e] at this
  exact this

def StepOk (s : Bytes) (x : Item × Bytes) : Prop :=
  x.1.bytes ++ x.2 = s ∧ (x.1.wf = true ∨ isTrunc x.1 = true) ∧ x.2.length < s.length

theorem stepOk_trunc (b : UInt8) (r : Bytes) : StepOk (b :: r) (.trunc (b :: r), []) :=
  ⟨by simp [Item.bytes], Or.inr rfl, by simp⟩

theorem stepOk_take (s pre r : Bytes) (n : Nat) (mk : Bytes → Item) (hn : n ≤ r.length)
    (hs : s = pre ++ r) (hpre : 1 ≤ pre.length) (hb : (mk (r.take n)).bytes = pre ++ r.take n)
    (hwf : (mk (r.take n)).wf = true) : StepOk s (mk (r.take n), r.drop n) := by
  refine ⟨?_, Or.inl hwf, ?_⟩
  · simp only [hb, hs, List.append_assoc, List.take_append_drop]
  · simp only [hs, List.length_append, List.length_drop]; omega

theorem lexOne_spec (b : UInt8) (r : Bytes) : StepOk (b :: r) (lexOne (b :: r)) := by
  have hb := b.toNat_lt
  unfold lexOne
  simp only []
  split
  · rename_i h
    split
    · rename_i hn
      refine stepOk_take _ [b] r b.toNat Item.push hn rfl (by simp) ?_ ?_
      · simp [Item.bytes, List.length_take, Nat.min_eq_left hn]
      · simp [Item.wf, List.length_take, Nat.min_eq_left hn]; omega
    · exact stepOk_trunc b r
  · split
    · rename_i h76
      have e : b = 76 := UInt8.toNat_inj.mp h76
      subst e
      split
      · rename_i l r'
        have hl := l.toNat_lt
        split
        · rename_i hn
          refine stepOk_take _ [76, l] r' l.toNat Item.pd1 hn rfl (by simp) ?_ ?_
          · simp [Item.bytes, List.length_take, Nat.min_eq_left hn, le1]
          · simp [Item.wf, List.length_take, Nat.min_eq_left hn]; omega
        · exact stepOk_trunc _ _
      · exact stepOk_trunc _ _
    · split
      · rename_i _ h77
        have e : b = 77 := UInt8.toNat_inj.mp h77
        subst e
        split
        · rename_i l0 l1 r'
          have hl0 := l0.toNat_lt
          have hl1 := l1.toNat_lt
          split
          · rename_i hn
            refine stepOk_take _ [77, l0, l1] r' _ Item.pd2 hn rfl (by simp) ?_ ?_
            · simp [Item.bytes, List.length_take, Nat.min_eq_left hn, le2]
            · simp [Item.wf, List.length_take, Nat.min_eq_left hn]; omega
          · exact stepOk_trunc _ _
        · exact stepOk_trunc _ _
      · split
        · rename_i _ _ h78
          have e : b = 78 := UInt8.toNat_inj.mp h78
          subst e
          split
          · rename_i l0 l1 l2 l3 r'
            have hl0 := l0.toNat_lt
            have hl1 := l1.toNat_lt
            have hl2 := l2.toNat_lt
            have hl3 := l3.toNat_lt
            split
            · rename_i hn
              refine stepOk_take _ [78, l0, l1, l2, l3] r' _ Item.pd4 hn rfl (by simp) ?_ ?_
              · simp [Item.bytes, List.length_take, Nat.min_eq_left hn, le4]
              · simp [Item.wf, List.length_take, Nat.min_eq_left hn]; omega
            · exact stepOk_trunc _ _
          · exact stepOk_trunc _ _
        · refine ⟨by simp [Item.bytes], Or.inl ?_, by simp⟩
          simp [Item.wf]; omega

theorem lexFuel_spec (f : Nat) (s : Bytes) (hf : s.length ≤ f) :
    encode (lexFuel f s) = s ∧ ∀ it ∈ lexFuel f s, it.wf = true ∨ isTrunc it = true := by
  induction f generalizing s with
  | zero =>
    have : s = [] := List.eq_nil_of_length_eq_zero (by omega)
    subst this; simp [lexFuel, encode]
  | succ f ih =>
    cases s with
    | nil => simp [lexFuel, encode]
    | cons b r =>
      obtain ⟨h1, h2, h3⟩ := lexOne_spec b r
      obtain ⟨i1, i2⟩ := ih (lexOne (b :: r)).2 (by simp only [List.length_cons] at hf h3; omega)
      simp only [lexFuel]
      refine ⟨?_, ?_⟩
      · rw [encode_cons, i1, h1]
      · intro it hit
        rcases List.mem_cons.mp hit with e | e
        · subst e; exact h2
        · exact i2 it e

theorem encode_lex (s : Bytes) : encode (lex s) = s := (lexFuel_spec _ s (Nat.le_refl _)).1

theorem roundTrip_script {T : Tables} (G : GoodTables T) (s : Bytes) (hs : safe T 0 (lex s) = true) :
    roundTrip T s = .ok s := by
  have hwf : ∀ it ∈ lex s, it.wf = true := by
    intro it hit
    rcases (lexFuel_spec _ s (Nat.le_refl _)).2 it hit with h | h
    · exact h
    · rw [(safe_mem hs it hit).1] at h; cases h
  have := roundTrip_safe G (lex s) hwf hs
  rwa [encode_lex] at this


end CG.Proofs.ScriptText
