import CG.Model.Writer
namespace CG.Proofs.Writer
open CG CG.Model.Writer

theorem writeAllFuel_nil (f : Nat) (d : Dest) : writeAllFuel f d [] = (.ok (), d) := by
  cases f <;> simp [writeAllFuel]

/-- what a `write_all` run guarantees, whatever the destination does -/
structure Delivered (d : Dest) (b : Bytes) (r : Outcome Unit) (d' : Dest) : Prop where
  noPanic : ∀ s, r ≠ .panic s
  tail_eq : d'.tail = d.tail
  sched_le : d'.sched.length ≤ d.sched.length
  pref : ∃ k, k ≤ b.length ∧ d'.buf = d.buf ++ b.take k
  ok_all : r = .ok () → d'.buf = d.buf ++ b
  /-- a destination that keeps accepting (limits ≥ 1, finitely many interruptions) gets success -/
  accept_ok : d.tail = .accept → r = .ok ()

theorem Delivered.nil (d : Dest) : Delivered d [] (.ok ()) d :=
  ⟨nofun, rfl, Nat.le_refl _, ⟨0, Nat.le_refl _, by simp⟩, fun _ => by simp, fun _ => rfl⟩

/-- a first stretch that left `b.take n` at the destination, then a run on the rest -/
theorem Delivered.step {d d1 d' : Dest} {b : Bytes} {n : Nat} {r : Outcome Unit}
    (h : Delivered d1 (b.drop n) r d') (hn : n ≤ b.length) (ht : d1.tail = d.tail)
    (hs : d1.sched.length ≤ d.sched.length) (hb : d1.buf = d.buf ++ b.take n) : Delivered d b r d' := by
  obtain ⟨k, hk, hk2⟩ := h.pref
  refine ⟨h.noPanic, h.tail_eq.trans ht, Nat.le_trans h.sched_le hs, ⟨n + k, ?_, ?_⟩, fun hr => ?_,
    fun ha => h.accept_ok (ht.trans ha)⟩
  · rw [List.length_drop] at hk
    omega
  · rw [hk2, hb, List.append_assoc, List.take_add]
  · rw [h.ok_all hr, hb, List.append_assoc, List.take_append_drop]

/-- a destination that does not accept for ever may refuse: an error, nothing more delivered -/
theorem Delivered.stop {d d1 : Dest} {b : Bytes} {e : String} (ht : d1.tail = d.tail)
    (hs : d1.sched.length ≤ d.sched.length) (hb : d1.buf = d.buf) (hna : d.tail ≠ .accept) :
    Delivered d b (.err e) d1 :=
  ⟨nofun, ht, hs, ⟨0, Nat.zero_le _, by simp [hb]⟩, nofun, fun ha => absurd ha hna⟩

/-- the loop invariant of `write_all`, for every destination (any schedule, any tail): each call
    either uses up a schedule entry, or the schedule is exhausted and the tail ends the loop at once -/
theorem writeAllFuel_spec (f : Nat) (d : Dest) (b : Bytes) (hf : d.sched.length < f) :
    Delivered d b (writeAllFuel f d b).1 (writeAllFuel f d b).2 := by
  induction f generalizing d b with
  | zero => omega
  | succ f ih =>
    by_cases hb : b = []
    · rw [hb, writeAllFuel_nil]
      exact .nil d
    · have hbl : 0 < b.length := List.length_pos_iff.mpr hb
      have he : b.isEmpty = false := by simpa using hb
      unfold writeAllFuel
      simp only [he, Bool.false_eq_true, if_false]
      obtain ⟨sched, tail, buf, log⟩ := d
      rcases sched with _ | ⟨k, s⟩
      · cases tail with
        | accept =>
          simp only [Dest.write, Nat.ne_of_gt hbl, if_false, List.drop_length, writeAllFuel_nil]
          exact ⟨nofun, rfl, Nat.le_refl _, ⟨b.length, Nat.le_refl _, by simp⟩, fun _ => rfl, fun _ => rfl⟩
        | fail => exact .stop rfl (Nat.le_refl _) rfl nofun
        | zero => exact .stop rfl (Nat.le_refl _) rfl nofun
      · have hlen : s.length < f := by simp at hf; omega
        cases k with
        | zero =>
          -- Interrupted: retry with the same buffer
          exact .step (n := 0) (ih _ _ (by exact hlen)) (Nat.zero_le _) rfl (by simp) (by simp)
        | succ k =>
          -- a short (or full) write of n ≥ 1 bytes, then continue with the rest
          simp only [Dest.write]
          rw [if_neg (by omega)]
          exact .step (ih _ _ (by exact hlen)) (Nat.min_le_right _ _) rfl (by simp) rfl

theorem writeAll_spec (d : Dest) (b : Bytes) (r : Outcome Unit) (d' : Dest)
    (h : writeAll d b = (r, d')) : Delivered d b r d' := by
  have := writeAllFuel_spec _ d b (Nat.lt_succ_self _)
  rwa [show writeAllFuel _ d b = (r, d') from h] at this

theorem Delivered.append {d d1 d' : Dest} {b1 b2 : Bytes} {r : Outcome Unit}
    (h1 : Delivered d b1 (.ok ()) d1) (h2 : Delivered d1 b2 r d') : Delivered d (b1 ++ b2) r d' :=
  .step (n := b1.length) (by rwa [List.drop_left]) (by simp) h1.tail_eq h1.sched_le
    (by rw [h1.ok_all rfl, List.take_left])

theorem Delivered.append_err {d d' : Dest} {b1 : Bytes} {e : String} (h : Delivered d b1 (.err e) d')
    (b2 : Bytes) : Delivered d (b1 ++ b2) (.err e) d' := by
  obtain ⟨k, hk, hk2⟩ := h.pref
  exact ⟨nofun, h.tail_eq, h.sched_le, ⟨k, by simp; omega, by rw [hk2, List.take_append_of_le_length hk]⟩,
    nofun, h.accept_ok⟩

/-- operation lists made of `write_all`s only behave like one `write_all` of all the payloads -/
theorem runOps_all_spec (ops : List WOp) (hall : ∀ op ∈ ops, op.isAll = true)
    (d : Dest) (r : Outcome Unit) (d' : Dest) (h : runOps d ops = (r, d')) :
    Delivered d (flatten ops) r d' := by
  induction ops generalizing d with
  | nil =>
    injection h with h1 h2
    subst h1 h2
    exact .nil d
  | cons op rest ih =>
    have hrest : ∀ o ∈ rest, o.isAll = true := fun o ho => hall o (by simp [ho])
    cases op with
    | raw b => exact absurd (hall (.raw b) (by simp)) (by simp [WOp.isAll])
    | all b =>
      simp only [runOps, runOp] at h
      cases hop : writeAll d b with
      | mk r1 d1 =>
        have h1 := writeAll_spec d b r1 d1 hop
        rw [hop] at h
        cases r1 with
        | ok u =>
          exact h1.append (ih hrest d1 h)
        | err e =>
          cases h
          exact h1.append_err _
        | panic s => exact absurd rfl (h1.noPanic s)

theorem runOps_noPanic (ops : List WOp) (d : Dest) (r : Outcome Unit) (d' : Dest)
    (h : runOps d ops = (r, d')) (s : String) : r ≠ .panic s := by
  induction ops generalizing d with
  | nil =>
    cases h
    nofun
  | cons op rest ih =>
    simp only [runOps] at h
    cases hop : runOp d op with
    | mk r1 d1 =>
      rw [hop] at h
      cases r1 with
      | ok u => exact ih d1 h
      | err e =>
        cases h
        nofun
      | panic q =>
        cases op with
        | all b => exact absurd rfl ((writeAll_spec d b _ d1 hop).noPanic q)
        | raw b =>
          simp only [runOp] at hop
          cases hw : d.write b with
          | mk res d2 =>
            rw [hw] at hop
            cases res <;> cases hop

/-- a destination with no schedule that accepts everything: a `Vec<u8>` -/
theorem runOps_accepting (ops : List WOp) (d : Dest) (hs : d.sched = []) (ht : d.tail = .accept) :
    ∃ d', runOps d ops = (.ok (), d') ∧ d'.buf = d.buf ++ flatten ops := by
  induction ops generalizing d with
  | nil => exact ⟨d, rfl, by simp [flatten]⟩
  | cons op rest ih =>
    cases op with
    | all b =>
      cases h1 : writeAll d b with
      | mk r d1 =>
        have s := writeAll_spec d b r d1 h1
        obtain rfl : r = .ok () := s.accept_ok ht
        have hs1 : d1.sched = [] := by
          have := s.sched_le
          rw [hs] at this
          exact List.length_eq_zero_iff.mp (Nat.le_zero.mp this)
        obtain ⟨d2, h2, hb2⟩ := ih d1 hs1 (s.tail_eq.trans ht)
        refine ⟨d2, ?_, ?_⟩
        · simp only [runOps, runOp, h1]
          exact h2
        · rw [hb2, s.ok_all rfl]
          simp [flatten, WOp.payload]
    | raw b =>
      obtain ⟨sched, tail, buf, log⟩ := d
      obtain rfl : sched = [] := hs
      obtain rfl : tail = .accept := ht
      obtain ⟨d2, h2, hb2⟩ := ih { buf := buf ++ b, log := b.length :: log } rfl rfl
      refine ⟨d2, ?_, ?_⟩
      · simp only [runOps, runOp, Dest.write]
        exact h2
      · rw [hb2]
        simp [flatten, WOp.payload]

theorem opsOfTrace_all (t : List Nat) (b : Bytes) : ∀ op ∈ opsOfTrace t b, op.isAll = true := by
  induction t generalizing b with
  | nil => simp [opsOfTrace]
  | cons n ns ih =>
    intro op hop
    simp only [opsOfTrace, List.mem_cons] at hop
    rcases hop with rfl | hop
    · rfl
    · exact ih _ op hop

theorem flatten_opsOfTrace (t : List Nat) (b : Bytes) :
    flatten (opsOfTrace t b) = b.take t.sum := by
  induction t generalizing b with
  | nil => simp [opsOfTrace, flatten]
  | cons n ns ih =>
    have := ih (b.drop n)
    simp only [flatten] at this
    simp only [opsOfTrace, flatten, List.flatMap_cons, WOp.payload, List.sum_cons, this,
      List.take_add]

end CG.Proofs.Writer
