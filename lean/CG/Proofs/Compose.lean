import CG.Base.Lemmas
import CG.Proofs.Framing
import CG.Proofs.WireHeader
import CG.Proofs.ScriptNum
import CG.Proofs.Bloom
import CG.Proofs.Sighash
import CG.Model.TxSer
import CG.Model.Header
import CG.Model.Bloom
import CG.Model.TxValidate
import CG.Model.TxChecker
import CG.Model.Merkle
import CG.Model.PyGlue
import CG.Spec.Bip143
import CG.Spec.Bip37Bloom
/-!
Helper definitions and lemmas for `CG.Props.Compose`.

The framing model of C11 (`CG.Model.Framing`, abstract payload codecs) instantiated with the
real codecs of C05 (`CG.Model.Wire`: the `table` of `read_partial` arms), and the proof that the two
independently written models of `message_header.rs` / `Message::read` agree on EVERY byte string.

Then (`Conv`) conversions between the structures that several models define for the same Rust type,
and the equations between their var-int functions.
-/
namespace CG.Proofs.Compose
open CG CG.Model.Wire CG.Proofs.Framing
open CG.Spec.Reassembly (Step step stepBody parseAll Wire)

/-- the arm of `read_partial`'s if-chain a command selects -/
def lookup (cmd : Bytes) : Option Entry := table.find? (fun e => e.cmd == cmd)

/-- the shape of the arm: payload-carrying, payload-less, or the final "unknown" case -/
def realKind (cmd : Bytes) : CG.Model.Framing.CmdKind :=
  match lookup cmd with
  | some e => (match e.body with | some _ => .payload | none => .bare)
  | none => .other

/-- C11 carries errors as canonical outcome strings `err:<Variant>` -/
def errStr (e : String) : String := "err:" ++ e

/-- the payload decoder of the arm (with its `validate()`); what the cursor leaves unread is dropped,
    as `read_partial` does -/
def realDecode (cmd p : Bytes) : Except String Msg :=
  match lookup cmd with
  | some e =>
    match e.body with
    | some c =>
      match c.dec p with
      | .ok (m, _) => .ok m
      | .err e => .error (errStr e)
      | .panic s => .error ("panic:" ++ s)
    | none => .error "unreachable"
  | none => .error "unreachable"

def realBare (cmd : Bytes) : Msg :=
  match lookup cmd with
  | some e => e.unit
  | none => .getAddr

/-- C11's configuration with C05's command table and codecs -/
def realCfg (H : Bytes → Bytes) (magic : Bytes) : CG.Model.Framing.Cfg Msg :=
  { magic := magic, maxPayload := MAX_PAYLOAD_SIZE, blockCmd := eBlock.cmd,
    H := fun p => H (H p), kind := realKind, decode := realDecode, bare := realBare,
    other := fun cmd => .other (otherName cmd) }

@[reducible] def toWireHdr (h : CG.Model.Framing.Header) : MessageHeader :=
  ⟨h.magic, h.command, h.payloadSize, h.checksum⟩

/-- what C11's reference says for an outcome of C05's `readMessage`, up to the name of the error -/
def Agree (o : Outcome (Msg × Bytes)) (s : Step Msg) : Prop :=
  match o with
  | .ok (m, r) => s = .msg m r
  | .err e => ∃ e', s = .stop e' ∧ (e' = errStr e ∨ (e = "IoError" ∧ e' = CG.Spec.Reassembly.DISCONNECTED))
  | .panic p => s = .stop ("panic:" ++ p)

theorem hdr_dec (p : Bytes) (hp : p.length = 24) :
    messageHeaderC.dec p = .ok (toWireHdr (CG.Model.Framing.parseHeader p), []) := by
  simp [messageHeaderC, iso, pair, dpair, bytesN, u32, uLE, takeExact, CG.Model.Framing.parseHeader,
    hp]

theorem validate_agree (H : Bytes → Bytes) (magic : Bytes) (h : CG.Model.Framing.Header) :
    (headerValidate (toWireHdr h) magic = .ok () ∧
      CG.Model.Framing.validate (realCfg H magic) h = .ok ()) ∨
    (headerValidate (toWireHdr h) magic = .err "BadData" ∧
      CG.Model.Framing.validate (realCfg H magic) h = .error "err:BadData") := by
  unfold headerValidate CG.Model.Framing.validate
  simp only [realCfg]
  by_cases h1 : h.magic ≠ magic
  · simp [h1]
  · by_cases h2 : h.command ≠ eBlock.cmd ∧ h.payloadSize > MAX_PAYLOAD_SIZE <;> simp [h1, h2]

/-- `MessageHeader::payload` followed by `k`, against the reference's length and checksum tests
    followed by `s`: it is enough that `k` and `s` agree on the payload and the rest -/
theorem payload_bind_agree (H : Bytes → Bytes) (hdr : MessageHeader) (Y : Bytes)
    (k : Bytes × Bytes → Outcome (Msg × Bytes)) (s : Step Msg)
    (hk : Agree (k (Y.take hdr.payloadSize, Y.drop hdr.payloadSize)) s) :
    Agree ((CG.Model.Wire.payload H hdr Y).bind k)
      (if Y.length < hdr.payloadSize then .stop CG.Spec.Reassembly.DISCONNECTED
       else if (H (H (Y.take hdr.payloadSize))).take 4 ≠ hdr.checksum then .stop CG.Spec.Reassembly.BAD_DATA
       else s) := by
  unfold CG.Model.Wire.payload takeExact checksumOf
  by_cases h : Y.length < hdr.payloadSize
  · have : ¬ hdr.payloadSize ≤ Y.length := by omega
    simp [h, this, Agree, CG.Spec.Reassembly.DISCONNECTED]
  · have : hdr.payloadSize ≤ Y.length := by omega
    by_cases h2 : (H (H (Y.take hdr.payloadSize))).take 4 = hdr.checksum
    · simpa [h, this, h2] using hk
    · simp [h, this, h2, Agree, errStr, CG.Spec.Reassembly.BAD_DATA]

theorem body_agree (H : Bytes → Bytes) (magic : Bytes) (h : CG.Model.Framing.Header) (Y : Bytes) :
    Agree (CG.Model.Wire.readPartial H (toWireHdr h) Y)
      (stepBody (toWire (realCfg H magic)) h.command h.payloadSize h.checksum Y) := by
  unfold CG.Model.Wire.readPartial stepBody
  have hk : (toWire (realCfg H magic)).kind h.command = toKind (realKind h.command) := rfl
  have hl : table.find? (fun e => e.cmd == (toWireHdr h).command) = lookup h.command := rfl
  rw [hk, hl]
  cases hlk : lookup h.command with
  | none =>
    simp only [realKind, hlk, toKind]
    by_cases h0 : h.payloadSize = 0
    · simp [h0, Agree, toWire, realCfg]
    · have hp : h.payloadSize > 0 := by omega
      simp only [hp, if_true, h0, if_false]
      exact payload_bind_agree H (toWireHdr h) Y _ _ rfl
  | some e =>
    cases hb : e.body with
    | none =>
      simp only [realKind, hlk, hb, toKind]
      by_cases h0 : h.payloadSize = 0
      · simp [h0, Agree, toWire, realCfg, realBare, hlk]
      · simp [h0, Agree, errStr, CG.Spec.Reassembly.BAD_DATA]
    | some c =>
      simp only [realKind, hlk, hb, toKind]
      refine payload_bind_agree H (toWireHdr h) Y _ _ ?_
      have hd : (toWire (realCfg H magic)).decode h.command (Y.take h.payloadSize) =
          realDecode h.command (Y.take h.payloadSize) := rfl
      simp only [hd, realDecode, hlk, hb]
      cases c.dec (Y.take h.payloadSize) <;> simp [Agree]

theorem read_step (H : Bytes → Bytes) (magic : Bytes) (X : Bytes) :
    Agree (readMessage H magic X) (step (toWire (realCfg H magic)) X) := by
  unfold readMessage
  rw [headerSize_eq]
  by_cases hlen : X.length < 24
  · have : takeExact 24 X = none := by
      simp [takeExact]
      omega
    rw [this, step_short _ _ hlen]
    simp [Agree]
  · have ht : takeExact 24 X = some (X.take 24, X.drop 24) := by
      simp [takeExact]
      omega
    have hp : (X.take 24).length = 24 := by
      simp
      omega
    have hs := step_validate (realCfg H magic) _ (X.drop 24) hp
    rw [List.take_append_drop] at hs
    rw [ht, hs]
    simp only [hdr_dec _ hp, bind_ok]
    rcases validate_agree H magic (CG.Model.Framing.parseHeader (X.take 24)) with ⟨a, b⟩ | ⟨a, b⟩
    · rw [a, b]
      exact body_agree H magic _ _
    · rw [a, b]
      simp [Agree, errStr]

theorem Agree_ok_iff {o : Outcome (Msg × Bytes)} {s : Step Msg} (h : Agree o s) (m : Msg) (r : Bytes) :
    o = .ok (m, r) ↔ s = .msg m r := by
  cases o with
  | ok p =>
    simp only [Agree] at h
    simp [h, Prod.ext_iff]
  | err e =>
    obtain ⟨e', rfl, _⟩ := h
    simp
  | panic p =>
    simp only [Agree] at h
    simp [h]

open CG.Spec.Reassembly (Frame)

/-- the bytes of an in-range message (`[]` for `Other`, which `write` refuses) -/
def wireBytes (H : Bytes → Bytes) (magic : Bytes) (m : Msg) : Bytes := (writeMessage H magic m).getD []

def frameOf (m : Msg) : Frame :=
  match entryOf m with
  | some e => ⟨e.cmd, match e.body with | some c => c.enc m | none => []⟩
  | none => ⟨[], []⟩

theorem write_eq_frame_payload (H : Bytes → Bytes) (magic : Bytes) (m : Msg) (e : Entry) (c : Codec Msg)
    (he : entryOf m = some e) (hb : e.body = some c) (hr : Msg.InRange m) :
    writeMessage H magic m = some (Frame.bytes (toWire (realCfg H magic)) (frameOf m)) := by
  unfold Msg.InRange at hr
  simp only [he, hb] at hr
  obtain ⟨hwf, hsz, _⟩ := hr
  have hlaw := entry_lawful m e c he hb
  have hplen : (c.enc m).length = c.size m := hlaw.size_eq m hwf
  have hmod : c.size m % 2 ^ 32 = c.size m := Nat.mod_eq_of_lt hsz
  simp only [writeMessage, he, hb, headerFor, messageHeader_enc, hmod, Frame.bytes, frameOf, hplen,
    checksumOf, ← natToLEn4, toWire, realCfg]

theorem write_bare (H : Bytes → Bytes) (magic : Bytes) (m : Msg) (e : Entry)
    (he : entryOf m = some e) (hb : e.body = none) :
    writeMessage H magic m = some (magic ++ e.cmd ++ natToLEn 4 0 ++ NO_CHECKSUM) ∧
    Frame.bytes (toWire (realCfg H magic)) (frameOf m) =
      magic ++ e.cmd ++ natToLEn 4 0 ++ (H (H [])).take 4 := by
  simp only [writeMessage, he, hb, headerFor, messageHeader_enc, Frame.bytes, frameOf, ← natToLEn4,
    toWire, realCfg, List.length_nil, List.append_nil, and_self]

namespace Conv
open CG.Model

/-! ### `Wire.Tx` ↔ `TxSer.Tx` (C05 ↔ C02), `TxValidate.Tx` → `Wire.Tx` (C04 → C05) -/

def serOutPoint (o : Wire.OutPoint) : TxSer.OutPoint := ⟨o.hash, o.index⟩
def serTxIn (i : Wire.TxIn) : TxSer.TxIn := ⟨serOutPoint i.prevOutput, i.unlockScript, i.sequence⟩
def serTxOut (o : Wire.TxOut) : TxSer.TxOut := ⟨o.satoshis, o.lockScript⟩
def serTx (t : Wire.Tx) : TxSer.Tx := ⟨t.version, t.inputs.map serTxIn, t.outputs.map serTxOut, t.lockTime⟩

def wireOutPoint (o : TxSer.OutPoint) : Wire.OutPoint := ⟨o.hash, o.index⟩
def wireTxIn (i : TxSer.TxIn) : Wire.TxIn := ⟨wireOutPoint i.prevOutput, i.unlockScript, i.sequence⟩
def wireTxOut (o : TxSer.TxOut) : Wire.TxOut := ⟨o.satoshis, o.lockScript⟩
def wireTx (t : TxSer.Tx) : Wire.Tx := ⟨t.version, t.inputs.map wireTxIn, t.outputs.map wireTxOut, t.lockTime⟩

theorem wire_ser (t : Wire.Tx) : wireTx (serTx t) = t := by
  have hi : wireTxIn ∘ serTxIn = id := rfl
  have ho : wireTxOut ∘ serTxOut = id := rfl
  simp [wireTx, serTx, hi, ho]

theorem ser_wire (t : TxSer.Tx) : serTx (wireTx t) = t := by
  have hi : serTxIn ∘ wireTxIn = id := rfl
  have ho : serTxOut ∘ wireTxOut = id := rfl
  simp [wireTx, serTx, hi, ho]

def vOutPoint (o : TxValidate.OutPoint) : Wire.OutPoint := ⟨o.hash, o.index⟩
def vTxIn (i : TxValidate.TxIn) : Wire.TxIn := ⟨vOutPoint i.prevOutput, i.unlockScript, i.sequence⟩
def vTxOut (o : TxValidate.TxOut) : Wire.TxOut := ⟨o.satoshis, o.lockScript⟩
def vTx (t : TxValidate.Tx) : Wire.Tx := ⟨t.version, t.inputs.map vTxIn, t.outputs.map vTxOut, t.lockTime⟩

def toVOutPoint (o : Wire.OutPoint) : TxValidate.OutPoint := ⟨o.hash, o.index⟩
def toVTxIn (i : Wire.TxIn) : TxValidate.TxIn := ⟨toVOutPoint i.prevOutput, i.unlockScript, i.sequence⟩
def toVTxOut (o : Wire.TxOut) : TxValidate.TxOut := ⟨o.satoshis, o.lockScript⟩
def toVTx (t : Wire.Tx) : TxValidate.Tx := ⟨t.version, t.inputs.map toVTxIn, t.outputs.map toVTxOut, t.lockTime⟩

/-! ### block header (C05 ↔ C19), filterload (C05 ↔ C20) -/

def hdr (h : Wire.BlockHeader) : Header.BlockHeader :=
  ⟨h.version, h.prevHash, h.merkleRoot, h.timestamp, h.bits, h.nonce⟩
def wireHdr (h : Header.BlockHeader) : Wire.BlockHeader :=
  ⟨h.version, h.prevHash, h.merkleRoot, h.timestamp, h.bits, h.nonce⟩

def fl (f : Wire.FilterLoad) : Bloom.FilterLoad := ⟨⟨f.filter, f.numHashFuncs, f.tweak⟩, f.flags⟩
def wireFl (f : Bloom.FilterLoad) : Wire.FilterLoad :=
  ⟨f.bloom.filter, f.bloom.numHashFuncs, f.bloom.tweak, f.flags⟩

end Conv

theorem txser_varInt_eq (n : Nat) : CG.Model.TxSer.varInt n = varint.enc n := by
  simp only [CG.Model.TxSer.varInt, varint]
  by_cases h : n ≤ 252
  · simp [h, natToLEn, CG.ofNat_congr (Nat.mod_mod n 256)]
  · simp [h]

theorem bip143_compactSize_eq (n : Nat) : CG.Spec.Bip143.compactSize n = varint.enc n :=
  (CG.Proofs.Sighash.varInt_eq_compactSize n).symm.trans (txser_varInt_eq n)

/-- the reference spells the bytes out as base-256 digits, without reducing the last one -/
theorem bip37_compactSize_eq (n : Nat) : CG.Spec.Bip37Bloom.compactSize n = varint.enc n := by
  simp [← txser_varInt_eq, CG.Spec.Bip37Bloom.compactSize, CG.Model.TxSer.varInt, Nat.lt_succ_iff, natToLEn,
    List.range, List.range.loop, Nat.div_div_eq_div_mul, CG.ofNat_congr (Nat.mod_mod _ 256)]

theorem bloom_readLE_eq (n : Nat) (b : Bytes) : CG.Model.Bloom.readLE n b = (uLE n).dec b :=
  congrFun (CG.Proofs.Bloom.readLE_eq_uLE n) b

end CG.Proofs.Compose
