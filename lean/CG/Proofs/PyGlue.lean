import CG.Model.PyGlue
import CG.Proofs.InterpTotal
/-!
Helper lemmas for C18: a run under the `TransactionlessChecker` that does not end in that checker's
own error (`IllegalState`) never consulted the checker, so every other checker reproduces it step by
step (`msLoop`, `checkMultisig`, the six checker opcodes of `exec`, the `runWith` loop, `coreEval`).
-/
namespace CG.Model.PyGlue
open CG CG.Model.ScriptNum CG.Model.Interp

variable {σ : Type}

theorem msLoop_tless (C : Checker σ) (script : Bytes) (c : σ) (sigs keys : List Bytes)
    (h : (msLoop (tless σ) script c sigs keys).1 ≠ .err "IllegalState") :
    msLoop C script c sigs keys = msLoop (tless σ) script c sigs keys := by
  cases sigs with
  | nil => cases keys <;> simp [msLoop]
  | cons s ss =>
    cases keys with
    | nil => simp [msLoop]
    | cons k ks => exact absurd (by simp [msLoop, tless]) h

theorem checkMultisig_tless (C : Checker σ) (c : σ) (stack : Stack) (sub : Bytes)
    (h : (checkMultisig (tless σ) c stack sub).1 ≠ .err "IllegalState") :
    checkMultisig C c stack sub = checkMultisig (tless σ) c stack sub := by
  -- both runs take the same way through the checker-free preamble; `by_cases` with `simp only`,
  -- since `split` on these `if`s is slow on a goal of this size
  unfold checkMultisig at h ⊢
  split
  · rfl
  · rfl
  · rename_i total s1 hpop
    rw [hpop] at h
    by_cases h1 : total < 0
    · simp only [h1, if_true]
    by_cases h2 : s1.length < total.toNat
    · simp only [h1, h2, if_true, if_false]
    simp only [h1, h2, if_false] at h ⊢
    split
    · rfl
    · rfl
    · rename_i required s3 hpop2
      rw [hpop2] at h
      by_cases h3 : required < 0 ∨ required > total
      · simp only [h3, if_true]
      by_cases h4 : s3.length < required.toNat
      · simp only [h3, h4, if_true, if_false]
      by_cases h5 : (s3.drop required.toNat).length < 1
      · simp only [h3, h4, h5, if_true, if_false]
      simp only [h3, h4, h5, if_false] at h ⊢
      rw [msLoop_tless C _ c _ _ (by
        intro hc
        apply h
        rcases hm : msLoop (tless σ) _ c _ _ with ⟨o, c'⟩
        rw [hm] at hc
        simp only at hc
        subst hc
        rfl)]

theorem sigCheck_tless (C : Checker σ) (script : Bytes) (st : St σ) (v : Bool)
    (h : sigCheck (tless σ) script st v ≠ .err "IllegalState") :
    sigCheck C script st v = sigCheck (tless σ) script st v := by
  unfold sigCheck checkSize at h ⊢
  by_cases h0 : st.stack.length < 2
  · simp only [h0, if_true]
  simp only [h0, if_false] at h ⊢
  split
  · rfl
  · rfl
  · rename_i hp1
    rw [hp1] at h
    simp only [] at h ⊢
    split
    · rfl
    · rfl
    · rename_i hp2
      rw [hp2] at h
      by_cases h1 : st.checkIndex > script.length
      · simp only [h1, if_true]
      · simp only [h1, if_false] at h
        exact absurd rfl h

theorem multisigOp_tless (C : Checker σ) (script : Bytes) (st : St σ) (v : Bool)
    (h : multisigOp (tless σ) script st v ≠ .err "IllegalState") :
    multisigOp C script st v = multisigOp (tless σ) script st v := by
  unfold multisigOp at h ⊢
  by_cases h1 : st.checkIndex > script.length
  · simp only [h1, if_true]
  · simp only [h1, if_false] at h ⊢
    rw [checkMultisig_tless C st.chk st.stack _ (by
      intro hc
      apply h
      rcases hm : checkMultisig (tless σ) st.chk st.stack (List.drop st.checkIndex script) with ⟨o, c'⟩
      rw [hm] at hc
      simp only at hc
      subst hc
      rfl)]

theorem exec_tless (H : Hashes) (C : Checker σ) (pg : Bool) (script : Bytes) (i : Nat) (op : Op)
    (st : St σ) (h : exec H (tless σ) pg script i op st ≠ .err "IllegalState") :
    exec H C pg script i op st = exec H (tless σ) pg script i op st := by
  cases op
  case checksig => exact sigCheck_tless C script st false h
  case checksigverify => exact sigCheck_tless C script st true h
  case checkmultisig => exact multisigOp_tless C script st false h
  case checkmultisigverify => exact multisigOp_tless C script st true h
  -- before genesis, once the number is popped the checker is asked and `tless` answers `IllegalState`
  case cltv | csv =>
    cases pg
    · rfl
    · cases hp : popNum st.stack with
      | err e => simp only [exec, hp, if_true]
      | panic e => simp only [exec, hp, if_true]
      | ok tr =>
        refine absurd ?_ h
        simp only [exec, hp, if_true]
        rfl
  all_goals rfl

theorem runWith_agree (S : String) (ex1 ex2 : Nat → Op → St σ → Outcome (Bool × St σ))
    (hex : ∀ i op st, ex2 i op st ≠ .err S → ex1 i op st = ex2 i op st)
    (script : Bytes) (brk : Option Nat) (fuel i : Nat) (st : St σ)
    (h : runWith ex2 script brk fuel i st ≠ .err S) :
    runWith ex1 script brk fuel i st = runWith ex2 script brk fuel i st := by
  induction fuel generalizing i st with
  | zero => rfl
  | succ f ih =>
    simp only [runWith_succ, loopBody] at h ⊢
    by_cases hlt : i < script.length
    · simp only [hlt, if_true] at h ⊢
      generalize advance script st i = i0 at h ⊢
      by_cases hge : i0 ≥ script.length
      · simp only [hge, if_true]
      · simp only [hge, if_false] at h ⊢
        by_cases hb : brkHit brk i0 = true
        · simp only [hb, if_true]
        · simp only [hb] at h ⊢
          have hne : ex2 i0 (decodeOp (script.getD i0 0)) st ≠ .err S := by
            intro hc
            rw [hc] at h
            exact h rfl
          rw [hex _ _ _ hne]
          cases hx : ex2 i0 (decodeOp (script.getD i0 0)) st with
          | ok bs =>
            obtain ⟨b, st'⟩ := bs
            cases b
            · rw [hx] at h
              exact ih _ _ h
            · rfl
          | err e => rfl
          | panic p => rfl
    · simp only [hlt, if_false]

/-- same state type and initial checker state on both sides: the state is never touched -/
theorem coreEval_tless (H : Hashes) (C : Checker σ) (c0 : σ) (script : Bytes) (flags : Nat)
    (start brk : Option Nat) (stack alt : Option Stack)
    (h : coreEval H (tless σ) c0 script flags start brk stack alt ≠ .err "IllegalState") :
    coreEval H C c0 script flags start brk stack alt
      = coreEval H (tless σ) c0 script flags start brk stack alt := by
  unfold coreEval run at h ⊢
  simp only [] at h ⊢
  have key := runWith_agree "IllegalState" (exec H C (decide (flags % 2 = 1)) script)
    (exec H (tless σ) (decide (flags % 2 = 1)) script)
    (fun i op st hh => exec_tless H C _ script i op st hh) script brk (script.length + 1) (start.getD 0)
    { stack := stack.getD [], alt := alt.getD [], branch := [], checkIndex := 0, chk := c0 }
    (by
      intro hc
      rw [hc] at h
      exact h rfl)
  rw [key]

end CG.Model.PyGlue
