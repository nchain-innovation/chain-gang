import CG.Model.Peer
import CG.Spec.PeerSpec
/-!
Helper lemmas for C12: the reachable-state invariant of the peer state machine, what one event does
to a state (`StepCase`: one constructor per behaviour of `step`), the per-step facts read off it, and
their lifting to arbitrary event lists by induction.
-/
namespace CG.Proofs.Peer
open CG CG.Model.Peer CG.Spec.PeerSpec

@[simp] theorem delivered_nil : delivered [] = [] := rfl
@[simp] theorem delivered_append (a b : List Output) : delivered (a ++ b) = delivered a ++ delivered b := by
  simp [delivered]
@[simp] theorem pongs_nil : pongs [] = [] := rfl
@[simp] theorem pongs_append (a b : List Output) : pongs (a ++ b) = pongs a ++ pongs b := by
  simp [pongs]
@[simp] theorem sendResults_nil : sendResults [] = [] := rfl
@[simp] theorem sendResults_append (a b : List Output) : sendResults (a ++ b) = sendResults a ++ sendResults b := by
  simp [sendResults]
@[simp] theorem wires_nil : wires [] = [] := rfl
@[simp] theorem wires_append (a b : List Output) : wires (a ++ b) = wires a ++ wires b := by
  simp [wires]

theorem runFrom_nil (f) (s : State) : runFrom f s [] = (s, []) := rfl
theorem runFrom_cons (f) (s : State) (e : Event) (es : List Event) :
    runFrom f s (e :: es) = ((runFrom f (step f s e).1 es).1, (step f s e).2 ++ (runFrom f (step f s e).1 es).2) := rfl

theorem runFrom_append (f) (a b : List Event) (s : State) :
    runFrom f s (a ++ b) =
      ((runFrom f (runFrom f s a).1 b).1, (runFrom f s a).2 ++ (runFrom f (runFrom f s a).1 b).2) := by
  induction a generalizing s with
  | nil => simp [runFrom_nil]
  | cons e es ih => simp [runFrom_cons, ih, List.append_assoc]

/-- * during the handshake: not connected, no writer, connected event not published;
    * in the receive loop: writer kept, connected event published, and the flag is down only if
      `disconnect()` has run (so the disconnected event is published);
    * thread returned: flag down, disconnected event published. -/
def invB (s : State) : Bool :=
  match s.phase with
  | .awaitVersion | .awaitVerack => !s.flag && !s.writer && !s.connFired
  | .connected => s.writer && s.connFired && (s.flag || s.discFired)
  | .dead => !s.flag && s.discFired

theorem inv_init : invB init = true := rfl

def annState (s : State) : Nat × Bool × Bool := (s.minfee, s.sendheaders, s.sendcmpct)

theorem step_frame_awaitVersion (f : VersionInfo → Bool) {s : State} (hp : s.phase = .awaitVersion) (m : Msg) :
    step f s (.remoteFrame m) =
      if acceptable f m then ({ s with phase := .awaitVerack }, []) else threadFail s := by
  obtain ⟨k, t, w⟩ := m
  cases k <;> simp only [step, hp, acceptable] <;> rfl

theorem step_frame_awaitVerack (f : VersionInfo → Bool) {s : State} (hp : s.phase = .awaitVerack) (m : Msg) :
    step f s (.remoteFrame m) = if isVerack m then completeHandshake s else threadFail s := by
  obtain ⟨k, t, w⟩ := m
  cases k <;> simp only [step, hp, isVerack] <;> rfl

theorem step_send_refused (f : VersionInfo → Bool) {s : State} (h : s.flag = false ∨ s.writer = false) (m : Msg) :
    step f s (.localSend m) = (s, [.sendResult (some .illegalState)]) := by
  rcases h with h | h <;> simp [step, send, h]

theorem onFrameConnected_delivered {s : State} (h : s.flag = true) (m : Msg) (hn : pingNonce m = none) :
    onFrameConnected s m =
      ({ s with minfee := (applyAnn (annState s) m).1, sendheaders := (applyAnn (annState s) m).2.1,
                sendcmpct := (applyAnn (annState s) m).2.2 }, [.deliver m]) := by
  obtain ⟨ph, fl, wr, cf, df, mf, sh, sc⟩ := s
  obtain ⟨k, t, w⟩ := m
  obtain rfl : fl = true := h
  cases k <;> simp [pingNonce] at hn <;>
    simp [onFrameConnected, handleMessage, applyAnn, annState]

theorem onFrameConnected_ping {s : State} (h : s.flag = true) (m : Msg) (n : Nat) (hn : pingNonce m = some n) :
    onFrameConnected s m = if s.writer then (s, [.wrote (.pong n), .deliver m]) else threadFail s := by
  obtain ⟨k, t, w⟩ := m
  cases k <;> simp [pingNonce] at hn
  subst hn
  cases hw : s.writer <;> simp [onFrameConnected, handleMessage, send, h, hw]

def inHandshake (s : State) : Bool := s.phase == .awaitVersion || s.phase == .awaitVerack

/-- `e`, arriving in state `s`, is a fault of the remote: it closes, sends garbage, is silent or sends the wrong
    message during the handshake, or sends a version the filter rejects -/
def remoteFault (f : VersionInfo → Bool) (s : State) : Event → Bool
  | .remoteClose => true
  | .remoteGarbage _ => true
  | .remoteSilence => s.phase == .awaitVersion || s.phase == .awaitVerack
  | .remoteFrame m =>
    match s.phase with
    | .awaitVersion => !acceptable f m
    | .awaitVerack => !isVerack m
    | _ => false
  | _ => false

/-- What one event does to a state: one constructor per behaviour of `step`, with the condition on
    state and event under which it occurs.  The flags a behaviour does not test stay variables. -/
inductive StepCase (f : VersionInfo → Bool) (s : State) : Event → State × List Output → Prop
  | versionAccepted (m : Msg) : s.phase = .awaitVersion → acceptable f m = true →
      StepCase f s (.remoteFrame m) ({ s with phase := .awaitVerack }, [])
  | handshakeCompleted (m : Msg) : s.phase = .awaitVerack → isVerack m = true →
      StepCase f s (.remoteFrame m) (completeHandshake s)
  | handshakeFault (e : Event) : inHandshake s = true → remoteFault f s e = true →
      StepCase f s e (threadFail s)
  | delivered (m : Msg) : s.phase = .connected → s.flag = true → pingNonce m = none →
      StepCase f s (.remoteFrame m)
        ({ s with minfee := (applyAnn (annState s) m).1, sendheaders := (applyAnn (annState s) m).2.1,
                  sendcmpct := (applyAnn (annState s) m).2.2 }, [.deliver m])
  | pingAnswered (m : Msg) (n : Nat) : s.phase = .connected → s.flag = true → s.writer = true →
      pingNonce m = some n → StepCase f s (.remoteFrame m) (s, [.wrote (.pong n), .deliver m])
  /-- no writer in the receive loop: excluded by `invB` -/
  | pongFails (m : Msg) (n : Nat) : s.phase = .connected → s.flag = true → s.writer = false →
      pingNonce m = some n → StepCase f s (.remoteFrame m) (threadFail s)
  | readError (e : Event) : s.phase = .connected → s.flag = true → remoteFault f s e = true →
      StepCase f s e (threadFail s)
  /-- the receive loop finds the flag down after a read: it returns without a word -/
  | flagDown (e : Event) : s.phase = .connected → s.flag = false → e.isLocal = false → e ≠ .remoteSilence →
      StepCase f s e ({ s with phase := .dead }, [])
  | silence : s.phase = .connected → StepCase f s .remoteSilence (s, [])
  | dead (e : Event) : s.phase = .dead → e.isLocal = false → StepCase f s e (s, [])
  | sendRefused (m : Msg) : (s.flag = false ∨ s.writer = false) →
      StepCase f s (.localSend m) (s, [.sendResult (some .illegalState)])
  | sendWritten (m : Msg) : s.flag = true → s.writer = true → m.writable = true →
      StepCase f s (.localSend m) (s, [.wrote (.msg m), .sendResult none])
  | sendFails (m : Msg) : s.flag = true → s.writer = true → m.writable = false →
      StepCase f s (.localSend m) ((disconnect s).1, (disconnect s).2 ++ [.sendResult (some .io)])
  | localDisconnect : StepCase f s .localDisconnect (disconnect s)

theorem step_cases (f : VersionInfo → Bool) (s : State) (e : Event) : StepCase f s e (step f s e) := by
  cases e with
  | remoteFrame m =>
    cases hp : s.phase with
    | awaitVersion =>
      rw [step_frame_awaitVersion f hp]
      cases ha : acceptable f m with
      | true => exact .versionAccepted m hp ha
      | false => exact .handshakeFault _ (by simp [inHandshake, hp]) (by simp [remoteFault, hp, ha])
    | awaitVerack =>
      rw [step_frame_awaitVerack f hp]
      cases ha : isVerack m with
      | true => exact .handshakeCompleted m hp ha
      | false => exact .handshakeFault _ (by simp [inHandshake, hp]) (by simp [remoteFault, hp, ha])
    | connected =>
      have : step f s (.remoteFrame m) = onFrameConnected s m := by simp only [step, hp]
      rw [this]
      rcases Bool.eq_false_or_eq_true s.flag with hup | hdown
      · cases hn : pingNonce m with
        | none => rw [onFrameConnected_delivered hup m hn]; exact .delivered m hp hup hn
        | some n =>
          rw [onFrameConnected_ping hup m n hn]
          rcases Bool.eq_false_or_eq_true s.writer with hw | hnw
          · rw [hw, if_pos rfl]; exact .pingAnswered m n hp hup hw hn
          · rw [hnw, if_neg (by simp)]; exact .pongFails m n hp hup hnw hn
      · simpa [onFrameConnected, hdown] using StepCase.flagDown (f := f) (.remoteFrame m) hp hdown rfl (by simp)
    | dead =>
      have : step f s (.remoteFrame m) = (s, []) := by simp only [step, hp]
      rw [this]; exact .dead _ hp rfl
  | remoteGarbage _ | remoteClose =>
    cases hp : s.phase <;> simp only [step, onReadError, hp]
    · exact .handshakeFault _ (by simp [inHandshake, hp]) rfl
    · exact .handshakeFault _ (by simp [inHandshake, hp]) rfl
    · rcases Bool.eq_false_or_eq_true s.flag with hup | hdown
      · rw [if_neg (by simp [hup])]; exact .readError _ hp hup rfl
      · rw [if_pos (by simp [hdown])]; exact .flagDown _ hp hdown rfl (by simp)
    · exact .dead _ hp rfl
  | remoteSilence =>
    cases hp : s.phase <;> simp only [step, hp]
    · exact .handshakeFault _ (by simp [inHandshake, hp]) (by simp [remoteFault, hp])
    · exact .handshakeFault _ (by simp [inHandshake, hp]) (by simp [remoteFault, hp])
    · exact .silence hp
    · exact .dead _ hp rfl
  | localSend m =>
    rcases Bool.eq_false_or_eq_true s.flag with hup | hdown
    · rcases Bool.eq_false_or_eq_true s.writer with hw | hnw
      · rcases Bool.eq_false_or_eq_true m.writable with hm | hnm
        · simpa [step, send, hup, hw, hm] using StepCase.sendWritten (f := f) m hup hw hm
        · simpa [step, send, hup, hw, hnm] using StepCase.sendFails (f := f) m hup hw hnm
      · rw [step_send_refused f (.inr hnw)]; exact .sendRefused m (.inr hnw)
    · rw [step_send_refused f (.inl hdown)]; exact .sendRefused m (.inl hdown)
  | localDisconnect => exact .localDisconnect

theorem inv_handshake {s : State} (h : invB s = true) (hp : inHandshake s = true) :
    s.flag = false ∧ s.writer = false ∧ s.connFired = false := by
  revert h hp
  simp only [invB, inHandshake]
  cases s.phase <;> simp <;> exact fun a b c => ⟨a, b, c⟩

theorem inv_connected {s : State} (h : invB s = true) (hp : s.phase = .connected) :
    s.writer = true ∧ s.connFired = true ∧ (s.flag = false → s.discFired = true) := by
  simp only [invB, hp, Bool.and_eq_true, Bool.or_eq_true] at h
  exact ⟨h.1.1, h.1.2, fun hfl => by simpa [hfl] using h.2⟩

theorem inv_dead {s : State} (h : invB s = true) (hp : s.phase = .dead) :
    s.flag = false ∧ s.discFired = true := by
  simpa [invB, hp] using h

theorem inv_disconnect {s : State} (h : invB s = true) : invB (disconnect s).1 = true := by
  revert h
  simp only [invB, disconnect]
  cases s.phase <;> simp <;> intros <;> simp [*]

theorem inv_step (f : VersionInfo → Bool) (s : State) (e : Event) (h : invB s = true) :
    invB (step f s e).1 = true := by
  have hc := step_cases f s e
  generalize step f s e = r at hc
  cases hc with
  | versionAccepted m hp => simpa [invB, hp] using h
  | delivered m hp => simpa [invB, hp] using h
  | flagDown e hp hfl => simpa [invB, hfl] using (inv_connected h hp).2.2 hfl
  | handshakeCompleted | handshakeFault | pongFails | readError =>
    simp [invB, threadFail, completeHandshake, disconnect]
  | pingAnswered | silence | dead | sendRefused | sendWritten => exact h
  | sendFails | localDisconnect => exact inv_disconnect h

theorem inv_runFrom (f : VersionInfo → Bool) (evs : List Event) (s : State) (h : invB s = true) :
    invB (runFrom f s evs).1 = true := by
  induction evs generalizing s with
  | nil => simpa [runFrom_nil] using h
  | cons e es ih => simpa [runFrom_cons] using ih _ (inv_step f s e h)

@[simp] def b2n (b : Bool) : Nat := if b then 1 else 0

theorem counts_step (f : VersionInfo → Bool) (s : State) (e : Event) :
    List.count .emitConnected (step f s e).2 + b2n s.connFired = b2n (step f s e).1.connFired ∧
    List.count .emitDisconnected (step f s e).2 + b2n s.discFired = b2n (step f s e).1.discFired := by
  have hc := step_cases f s e
  generalize step f s e = r at hc
  cases hc with
  | handshakeCompleted =>
    simp only [completeHandshake]
    cases s.connFired <;> simp
  -- the behaviours that run `disconnect`
  | handshakeFault | pongFails | readError | sendFails | localDisconnect =>
    simp only [threadFail, disconnect]
    cases s.discFired <;> simp
  | _ => simp [-b2n]

theorem counts_run (f : VersionInfo → Bool) (evs : List Event) (s : State) :
    List.count .emitConnected (runFrom f s evs).2 + b2n s.connFired = b2n (runFrom f s evs).1.connFired ∧
    List.count .emitDisconnected (runFrom f s evs).2 + b2n s.discFired = b2n (runFrom f s evs).1.discFired := by
  induction evs generalizing s with
  | nil => simp only [runFrom_nil, List.count_nil, Nat.zero_add, and_self]
  | cons e es ih =>
    have h1 := counts_step f s e
    have h2 := ih (step f s e).1
    simp only [runFrom_cons, List.count_append]
    omega

theorem conn_count_run (f : VersionInfo → Bool) (evs : List Event) (s : State) :
    List.count .emitConnected (runFrom f s evs).2 + b2n s.connFired = b2n (runFrom f s evs).1.connFired :=
  (counts_run f evs s).1

theorem disc_count_run (f : VersionInfo → Bool) (evs : List Event) (s : State) :
    List.count .emitDisconnected (runFrom f s evs).2 + b2n s.discFired = b2n (runFrom f s evs).1.discFired :=
  (counts_run f evs s).2

theorem disc_mono_run (f : VersionInfo → Bool) (evs : List Event) (s : State) (h : s.discFired = true) :
    (runFrom f s evs).1.discFired = true := by
  have hc := disc_count_run f evs s
  rw [h] at hc
  cases hd : (runFrom f s evs).1.discFired with
  | true => rfl
  | false => simp [hd] at hc

/-- `seen` = the connected event has already been published: a log is in order when it publishes
    the connected event at most once and delivers messages only after it -/
@[simp] def okOrder : List Output → Bool → Bool
  | [], _ => true
  | o :: r, seen =>
    match o with
    | .emitConnected => !seen && okOrder r true
    | .deliver _ => seen && okOrder r seen
    | _ => okOrder r seen

theorem okOrder_append (a b : List Output) (seen : Bool) :
    okOrder (a ++ b) seen = (okOrder a seen && okOrder b (seen || a.contains .emitConnected)) := by
  induction a generalizing seen with
  | nil => simp [okOrder]
  | cons o r ih =>
    cases o <;> cases seen <;> simp [okOrder, ih]

theorem order_step (f : VersionInfo → Bool) (s : State) (e : Event) (h : invB s = true) :
    okOrder (step f s e).2 s.connFired = true ∧
    (step f s e).1.connFired = (s.connFired || (step f s e).2.contains .emitConnected) := by
  have hc := step_cases f s e
  generalize step f s e = r at hc
  cases hc with
  | handshakeCompleted m hp =>
    simp [completeHandshake, (inv_handshake h (by simp [inHandshake, hp])).2.2]
  | delivered m hp => simp [(inv_connected h hp).2.1]
  | pingAnswered m n hp => simp [(inv_connected h hp).2.1]
  | handshakeFault | pongFails | readError | sendFails | localDisconnect =>
    simp only [threadFail, disconnect]
    cases s.discFired <;> simp
  | _ => simp

theorem order_run (f : VersionInfo → Bool) (evs : List Event) (s : State) (h : invB s = true) :
    okOrder (runFrom f s evs).2 s.connFired = true ∧
    (runFrom f s evs).1.connFired = (s.connFired || (runFrom f s evs).2.contains .emitConnected) := by
  induction evs generalizing s with
  | nil => simp [runFrom_nil, okOrder]
  | cons e es ih =>
    have h1 := order_step f s e h
    have h2 := ih (step f s e).1 (inv_step f s e h)
    simp only [runFrom_cons, okOrder_append]
    rw [← h1.2]
    refine ⟨by simp [h1.1, h2.1], ?_⟩
    rw [h2.2, h1.2]
    simp [Bool.or_assoc]

theorem okOrder_spec (os : List Output) (h : okOrder os false = true) :
    List.count .emitConnected os ≤ 1 ∧
    ∀ pre m post, os = pre ++ .deliver m :: post → .emitConnected ∈ pre := by
  constructor
  · have key : ∀ (os : List Output) (seen : Bool), okOrder os seen = true →
        List.count .emitConnected os + b2n seen ≤ 1 := by
      intro os
      induction os with
      | nil => intro seen _; cases seen <;> simp
      | cons o r ih =>
        intro seen h
        cases o with
        | emitConnected =>
          -- allowed only while `seen` is false; the rest of the log runs with `seen = true`
          simp only [okOrder, Bool.and_eq_true, Bool.not_eq_true'] at h
          simpa [h.1] using ih true h.2
        | deliver m =>
          simp only [okOrder, Bool.and_eq_true] at h
          simpa using ih seen h.2
        | emitDisconnected | wrote | sendResult => simpa using ih seen h
    simpa using key os false h
  · intro pre m post e
    subst e
    rw [okOrder_append] at h
    simp [okOrder] at h
    exact h.2.1

theorem applyAnn_ping {m : Msg} {n : Nat} (hn : pingNonce m = some n) (st : Nat × Bool × Bool) :
    applyAnn st m = st := by
  obtain ⟨k, t, w⟩ := m
  cases k <;> simp [pingNonce] at hn <;> rfl

theorem delivery_step (f : VersionInfo → Bool) (s : State) (e : Event) :
    (delivered (step f s e).2 = [] ∧ pongs (step f s e).2 = [] ∧ annState (step f s e).1 = annState s) ∨
    ∃ m, e = .remoteFrame m ∧ delivered (step f s e).2 = [m] ∧
      pongs (step f s e).2 = [m].filterMap pingNonce ∧ annState (step f s e).1 = applyAnn (annState s) m := by
  have hc := step_cases f s e
  generalize step f s e = r at hc
  cases hc with
  | delivered m _ _ hn => exact .inr ⟨m, rfl, rfl, by simp [pongs, hn], by simp [annState]⟩
  | pingAnswered m n _ _ _ hn => exact .inr ⟨m, rfl, rfl, by simp [pongs, hn], (applyAnn_ping hn _).symm⟩
  | handshakeCompleted =>
    simp only [completeHandshake]
    cases s.connFired <;> exact .inl ⟨rfl, rfl, rfl⟩
  | handshakeFault | pongFails | readError | sendFails | localDisconnect =>
    simp only [threadFail, disconnect]
    cases s.discFired <;> exact .inl ⟨rfl, rfl, rfl⟩
  | _ => exact .inl ⟨rfl, rfl, rfl⟩

theorem delivery_run (f : VersionInfo → Bool) (evs : List Event) (s : State) :
    pongs (runFrom f s evs).2 = (delivered (runFrom f s evs).2).filterMap pingNonce ∧
    annState (runFrom f s evs).1 = (delivered (runFrom f s evs).2).foldl applyAnn (annState s) ∧
    List.Sublist (delivered (runFrom f s evs).2) (evs.filterMap frameOf) := by
  induction evs generalizing s with
  | nil => simp [runFrom_nil]
  | cons e es ih =>
    obtain ⟨i1, i2, i3⟩ := ih (step f s e).1
    simp only [runFrom_cons, pongs_append, delivered_append, List.filterMap_append, List.foldl_append, i1, i2]
    rcases delivery_step f s e with ⟨h1, h2, h3⟩ | ⟨m, rfl, h1, h2, h3⟩
    · rw [h1, h2, h3]
      refine ⟨rfl, rfl, ?_⟩
      cases e <;> simp [frameOf, List.filterMap_cons] <;> first | exact i3 | exact i3.cons _
    · rw [h1, h2, h3]
      exact ⟨rfl, rfl, by simpa [frameOf, List.filterMap_cons] using i3⟩

/-! ### Quiet states: the flag is down, the disconnected event published, the handshake over -/

def quiet (s : State) : Bool :=
  !s.flag && s.discFired && (s.phase == .connected || s.phase == .dead)

theorem quiet_iff {s : State} :
    quiet s = true ↔ s.flag = false ∧ s.discFired = true ∧ (s.phase = .connected ∨ s.phase = .dead) := by
  simp [quiet, and_assoc]

/-- the only outputs from a quiet state: each `send` call fails with `IllegalState` -/
def sendErrs (evs : List Event) : List Output :=
  evs.filterMap fun
    | .localSend _ => some (.sendResult (some .illegalState))
    | _ => none

theorem sendErrs_cons (e : Event) (es : List Event) :
    sendErrs (e :: es) = sendErrs [e] ++ sendErrs es := by
  cases e <;> rfl

theorem sendErrs_remote {e : Event} (h : e.isLocal = false) : sendErrs [e] = [] := by
  cases e <;> simp [sendErrs, Event.isLocal] at h ⊢

theorem quiet_step (f : VersionInfo → Bool) (s : State) (e : Event) (h : quiet s = true) :
    quiet (step f s e).1 = true ∧ (step f s e).2 = sendErrs [e] ∧
    annState (step f s e).1 = annState s := by
  obtain ⟨hfl, hd, hph⟩ := quiet_iff.mp h
  have hc := step_cases f s e
  generalize step f s e = r at hc
  cases hc with
  | flagDown e _ _ hl => exact ⟨by simp [quiet, hfl, hd], (sendErrs_remote hl).symm, rfl⟩
  | silence => exact ⟨h, rfl, rfl⟩
  | dead e _ hl => exact ⟨h, (sendErrs_remote hl).symm, rfl⟩
  | sendRefused => exact ⟨h, rfl, rfl⟩
  | localDisconnect => simpa [disconnect, hd, quiet, hfl, sendErrs, annState] using hph
  -- every other behaviour needs the handshake phase or the flag up
  | handshakeFault e hin => rcases hph with hp | hp <;> simp [inHandshake, hp] at hin
  | versionAccepted | handshakeCompleted | delivered | pingAnswered | pongFails | readError
  | sendWritten | sendFails => simp_all

theorem quiet_run (f : VersionInfo → Bool) (evs : List Event) (s : State) (h : quiet s = true) :
    quiet (runFrom f s evs).1 = true ∧ (runFrom f s evs).2 = sendErrs evs ∧
    annState (runFrom f s evs).1 = annState s := by
  induction evs generalizing s with
  | nil => simp [runFrom_nil, sendErrs, h]
  | cons e es ih =>
    obtain ⟨h1, h2, h3⟩ := quiet_step f s e h
    obtain ⟨i1, i2, i3⟩ := ih _ h1
    simp only [runFrom_cons, h2, i2]
    exact ⟨i1, (sendErrs_cons e es).symm, i3.trans h3⟩

theorem quiet_threadFail (s : State) : quiet (threadFail s).1 = true := by
  simp [quiet, threadFail, disconnect]

theorem fault_step (f : VersionInfo → Bool) (s : State) (e : Event) (h : invB s = true)
    (hf : remoteFault f s e = true) : quiet (step f s e).1 = true := by
  have hc := step_cases f s e
  generalize step f s e = r at hc
  cases hc with
  | handshakeFault | pongFails | readError => exact quiet_threadFail s
  | flagDown e hp hfl => simp [quiet, hfl, (inv_connected h hp).2.2 hfl]
  | dead e hp => simp [quiet, hp, inv_dead h hp]
  -- the other behaviours are those of an event that is no fault
  | versionAccepted | handshakeCompleted | delivered | pingAnswered | silence
  | sendRefused | sendWritten | sendFails | localDisconnect => simp_all [remoteFault]

/-- outputs that belong to the handshake -/
def isHs : Output → Bool
  | .wrote .version | .wrote .verack | .wrote .hsPing | .emitConnected => true
  | _ => false

theorem filter_isHs_disconnect (s : State) : (disconnect s).2.filter isHs = [] := by
  simp only [disconnect]
  cases s.discFired <;> rfl

theorem filter_isHs_threadFail (s : State) : (threadFail s).2.filter isHs = [] :=
  filter_isHs_disconnect s

/-- a fault of the remote during the handshake: `disconnect(); return` -/
theorem step_of_handshakeFault (f : VersionInfo → Bool) {s : State} {e : Event} (hp : inHandshake s = true)
    (hf : remoteFault f s e = true) : step f s e = threadFail s := by
  have hc := step_cases f s e
  generalize step f s e = r at hc
  cases hc with
  | handshakeFault => rfl
  | versionAccepted m hp' ha => simp [remoteFault, hp', ha] at hf
  | handshakeCompleted m hp' ha => simp [remoteFault, hp', ha] at hf
  -- the behaviours of the receive loop and of a dead thread contradict `hp`; a local call is no fault
  | delivered | pingAnswered | pongFails | readError | flagDown | silence | dead
  | sendRefused | sendWritten | sendFails | localDisconnect => simp_all [inHandshake, remoteFault]

theorem hs_local_step (f : VersionInfo → Bool) (s : State) (e : Event) (h : invB s = true)
    (hp : inHandshake s = true) (hl : e.isLocal = true) :
    (step f s e).1.phase = s.phase ∧ (step f s e).2.filter isHs = [] := by
  cases e with
  | localSend m =>
    rw [step_send_refused f (.inl (inv_handshake h hp).1)]
    exact ⟨rfl, rfl⟩
  | localDisconnect => exact ⟨rfl, filter_isHs_disconnect s⟩
  | _ => cases hl

theorem post_hs_step (f : VersionInfo → Bool) (s : State) (e : Event) (hp : inHandshake s = false) :
    inHandshake (step f s e).1 = false ∧ (step f s e).2.filter isHs = [] := by
  have hc := step_cases f s e
  generalize step f s e = r at hc
  cases hc with
  | versionAccepted m hp' => simp [inHandshake, hp'] at hp
  | handshakeCompleted m hp' => simp [inHandshake, hp'] at hp
  | handshakeFault e hin => simp [hp] at hin
  | delivered | pingAnswered | silence | dead | sendRefused | sendWritten => exact ⟨hp, rfl⟩
  | pongFails | readError => exact ⟨rfl, filter_isHs_disconnect s⟩
  | flagDown => exact ⟨rfl, rfl⟩
  | sendFails => exact ⟨hp, by simp [filter_isHs_disconnect, isHs]⟩
  | localDisconnect => exact ⟨hp, filter_isHs_disconnect s⟩

theorem post_hs_run (f : VersionInfo → Bool) (evs : List Event) (s : State) (hp : inHandshake s = false) :
    (runFrom f s evs).2.filter isHs = [] := by
  induction evs generalizing s with
  | nil => simp [runFrom_nil]
  | cons e es ih =>
    have h1 := post_hs_step f s e hp
    simp [runFrom_cons, h1.2, ih _ h1.1]

theorem step_of_version (f : VersionInfo → Bool) {s : State} {e : Event} (hp : s.phase = .awaitVersion)
    (hl : e.isLocal = false) (hf : remoteFault f s e = false) :
    step f s e = ({ s with phase := .awaitVerack }, []) := by
  cases e with
  | remoteFrame m => rw [step_frame_awaitVersion f hp, if_pos (by simpa [remoteFault, hp] using hf)]
  | remoteSilence => simp [remoteFault, hp] at hf
  | localSend | localDisconnect => cases hl
  | _ => cases hf

theorem step_of_verack (f : VersionInfo → Bool) {s : State} {e : Event} (hp : s.phase = .awaitVerack)
    (hl : e.isLocal = false) (hf : remoteFault f s e = false) : step f s e = completeHandshake s := by
  cases e with
  | remoteFrame m => rw [step_frame_awaitVerack f hp, if_pos (by simpa [remoteFault, hp] using hf)]
  | remoteSilence => simp [remoteFault, hp] at hf
  | localSend | localDisconnect => cases hl
  | _ => cases hf

def ackNext (evs : List Event) : Bool :=
  match nextRemote evs with
  | some (.remoteFrame m, _) => isVerack m
  | _ => false

theorem handshakeCompletes_eq (f : VersionInfo → Bool) (evs : List Event) :
    handshakeCompletes f evs = (match versionAccepted f evs with | some rest => ackNext rest | none => false) := by
  unfold handshakeCompletes afterHandshake ackNext
  cases versionAccepted f evs with
  | none => rfl
  | some rest =>
    simp only
    cases nextRemote rest with
    | none => rfl
    | some p =>
      obtain ⟨e, r⟩ := p
      cases e <;> simp
      split <;> simp_all

theorem ackNext_cons_remote (f : VersionInfo → Bool) {s : State} {e : Event} (es : List Event)
    (hp : s.phase = .awaitVerack) (hl : e.isLocal = false) : ackNext (e :: es) = !remoteFault f s e := by
  cases e <;> simp [ackNext, nextRemote, Event.isLocal, remoteFault, hp] at hl ⊢

theorem versionAccepted_cons_remote (f : VersionInfo → Bool) {s : State} {e : Event} (es : List Event)
    (hp : s.phase = .awaitVersion) (hl : e.isLocal = false) :
    versionAccepted f (e :: es) = if remoteFault f s e then none else some es := by
  cases e <;> simp [versionAccepted, nextRemote, Event.isLocal, remoteFault, hp] at hl ⊢
  cases acceptable f _ <;> rfl

theorem hs_run_verack (f : VersionInfo → Bool) (evs : List Event) (s : State) (h : invB s = true)
    (hp : s.phase = .awaitVerack) :
    (runFrom f s evs).2.filter isHs =
      if ackNext evs then [.wrote .verack, .wrote .hsPing, .emitConnected] else [] := by
  induction evs generalizing s with
  | nil => simp [runFrom_nil, ackNext, nextRemote]
  | cons e es ih =>
    have hin : inHandshake s = true := by simp [inHandshake, hp]
    rw [runFrom_cons, List.filter_append]
    by_cases hl : e.isLocal = true
    · have h1 := hs_local_step f s e h hin hl
      have : ackNext (e :: es) = ackNext es := by simp [ackNext, nextRemote, hl]
      rw [this, h1.2, List.nil_append]
      exact ih _ (inv_step f s e h) (by rw [h1.1, hp])
    · have hl' : e.isLocal = false := by simpa using hl
      rw [ackNext_cons_remote f es hp hl']
      cases hf : remoteFault f s e with
      | true =>
        rw [step_of_handshakeFault f hin hf, post_hs_run f es _ rfl, filter_isHs_threadFail]
        rfl
      | false =>
        rw [step_of_verack f hp hl' hf, post_hs_run f es _ rfl]
        simp [completeHandshake, (inv_handshake h hin).2.2, isHs]

theorem hs_run_version (f : VersionInfo → Bool) (evs : List Event) (s : State) (h : invB s = true)
    (hp : s.phase = .awaitVersion) :
    (runFrom f s evs).2.filter isHs =
      if handshakeCompletes f evs then [.wrote .verack, .wrote .hsPing, .emitConnected] else [] := by
  rw [handshakeCompletes_eq]
  induction evs generalizing s with
  | nil => simp [runFrom_nil, versionAccepted, nextRemote]
  | cons e es ih =>
    have hin : inHandshake s = true := by simp [inHandshake, hp]
    rw [runFrom_cons, List.filter_append]
    by_cases hl : e.isLocal = true
    · have h1 := hs_local_step f s e h hin hl
      have : versionAccepted f (e :: es) = versionAccepted f es := by simp [versionAccepted, nextRemote, hl]
      rw [this, h1.2, List.nil_append]
      exact ih _ (inv_step f s e h) (by rw [h1.1, hp])
    · have hl' : e.isLocal = false := by simpa using hl
      rw [versionAccepted_cons_remote f es hp hl']
      cases hf : remoteFault f s e with
      | true =>
        rw [step_of_handshakeFault f hin hf, post_hs_run f es _ rfl, filter_isHs_threadFail]
        rfl
      | false =>
        have hinv := inv_step f s e h
        rw [step_of_version f hp hl' hf] at hinv ⊢
        exact hs_run_verack f es _ hinv rfl

def live (s : State) : Bool := s.phase == .connected && s.flag && s.writer

theorem live_iff {s : State} : live s = true ↔ s.phase = .connected ∧ s.flag = true ∧ s.writer = true := by
  simp [live, and_assoc]

/-- the outputs of one non-terminating event in a live session -/
def liveOut : Event → List Output
  | .remoteFrame m =>
    (match pingNonce m with
     | some n => [.wrote (.pong n)]
     | none => []) ++ [.deliver m]
  | .localSend m => [.wrote (.msg m), .sendResult none]
  | _ => []

theorem live_step_exact (f : VersionInfo → Bool) (s : State) (e : Event) (h : live s = true)
    (ht : terminates e = false) :
    (step f s e).2 = liveOut e ∧ live (step f s e).1 = true ∧ (step f s e).1.discFired = s.discFired := by
  obtain ⟨hp, hfl, hw⟩ := live_iff.mp h
  have hc := step_cases f s e
  generalize step f s e = r at hc
  cases hc with
  | delivered m _ _ hn => exact ⟨by simp [liveOut, hn], by simpa [live] using h, rfl⟩
  | pingAnswered m n _ _ _ hn => exact ⟨by simp [liveOut, hn], h, rfl⟩
  | silence | sendWritten => exact ⟨rfl, h, rfl⟩
  -- in the receive loop a fault is a read error, and that terminates
  | readError e _ _ hf => cases e <;> simp_all [remoteFault, terminates]
  -- the other behaviours need the handshake phase, a dead thread, the flag down or no writer, or terminate
  | versionAccepted | handshakeCompleted | handshakeFault | pongFails | flagDown | dead
  | sendRefused | sendFails | localDisconnect => simp_all [inHandshake, terminates]

theorem live_frames_run (f : VersionInfo → Bool) (ms : List Msg) (s : State) (h : live s = true) :
    delivered (runFrom f s (ms.map .remoteFrame)).2 = ms ∧ live (runFrom f s (ms.map .remoteFrame)).1 = true ∧
    List.count .emitDisconnected (runFrom f s (ms.map .remoteFrame)).2 = 0 := by
  induction ms generalizing s with
  | nil => exact ⟨rfl, h, rfl⟩
  | cons m ms ih =>
    obtain ⟨h1, h2, -⟩ := live_step_exact f s (.remoteFrame m) h rfl
    obtain ⟨i1, i2, i3⟩ := ih _ h2
    have d : delivered (liveOut (.remoteFrame m)) = [m] ∧
        List.count .emitDisconnected (liveOut (.remoteFrame m)) = 0 := by
      simp only [liveOut]
      cases pingNonce m <;> exact ⟨rfl, rfl⟩
    simp only [List.map_cons, runFrom_cons, delivered_append, List.count_append, h1, d.1, d.2, i1, i3]
    exact ⟨rfl, i2, trivial⟩

theorem remoteOnly_cons_local (e : Event) (es : List Event) (h : e.isLocal = true) :
    remoteOnly (e :: es) = remoteOnly es := by simp [remoteOnly, h]

theorem remoteOnly_cons_remote (e : Event) (es : List Event) (h : e.isLocal = false) :
    remoteOnly (e :: es) = e :: remoteOnly es := by simp [remoteOnly, h]

def benign : Event → Bool
  | .localSend m => m.writable
  | .localDisconnect => false
  | _ => true

theorem benign_local_step (f : VersionInfo → Bool) (s : State) (e : Event) (hl : e.isLocal = true)
    (hb : benign e = true) :
    (step f s e).1 = s ∧ delivered (step f s e).2 = [] ∧ List.count .emitDisconnected (step f s e).2 = 0 := by
  cases e with
  | localSend m =>
    have hm : m.writable = true := hb
    simp only [step, send, hm]
    cases s.flag <;> cases s.writer <;> exact ⟨rfl, rfl, rfl⟩
  | localDisconnect => cases hb
  | _ => cases hl

theorem benign_run (f : VersionInfo → Bool) (evs : List Event) (s : State) (hb : ∀ e ∈ evs, benign e = true) :
    (runFrom f s evs).1 = (runFrom f s (remoteOnly evs)).1 ∧
    delivered (runFrom f s evs).2 = delivered (runFrom f s (remoteOnly evs)).2 ∧
    List.count .emitDisconnected (runFrom f s evs).2 =
      List.count .emitDisconnected (runFrom f s (remoteOnly evs)).2 := by
  induction evs generalizing s with
  | nil => exact ⟨rfl, rfl, rfl⟩
  | cons e es ih =>
    have ih' := fun s => ih s (fun x hx => hb x (List.mem_cons_of_mem _ hx))
    by_cases hl : e.isLocal = true
    · obtain ⟨h1, h2, h3⟩ := benign_local_step f s e hl (hb e (List.mem_cons_self ..))
      rw [remoteOnly_cons_local e es hl]
      simp only [runFrom_cons, delivered_append, List.count_append, h1, h2, h3, List.nil_append, Nat.zero_add]
      exact ih' s
    · obtain ⟨i1, i2, i3⟩ := ih' (step f s e).1
      rw [remoteOnly_cons_remote e es (by simpa using hl)]
      simp only [runFrom_cons, delivered_append, List.count_append]
      exact ⟨i1, by rw [i2], by rw [i3]⟩

theorem version_run (f : VersionInfo → Bool) (evs : List Event) (s : State) (vm am : Msg) (ms : List Msg)
    (h : invB s = true) (hp : s.phase = .awaitVersion) (hv : acceptable f vm = true) (ha : isVerack am = true)
    (hr : remoteOnly evs = .remoteFrame vm :: .remoteFrame am :: ms.map .remoteFrame)
    (hb : ∀ e ∈ evs, benign e = true) :
    delivered (runFrom f s evs).2 = ms ∧ live (runFrom f s evs).1 = true ∧
    List.count .emitDisconnected (runFrom f s evs).2 = 0 := by
  obtain ⟨b1, b2, b3⟩ := benign_run f evs s hb
  have hcf := (inv_handshake h (by simp [inHandshake, hp])).2.2
  rw [b1, b2, b3, hr]
  simp only [runFrom_cons, step_frame_awaitVersion f hp, if_pos hv]
  rw [step_frame_awaitVerack f rfl, if_pos ha]
  simp only [completeHandshake, hcf]
  obtain ⟨l1, l2, l3⟩ := live_frames_run f ms
    { s with phase := .connected, writer := true, flag := true, connFired := true } rfl
  exact ⟨by simpa [delivered] using l1, l2, by simpa using l3⟩

theorem nextRemote_none_local {l : List Event} (h : nextRemote l = none) : ∀ x ∈ l, x.isLocal = true := by
  induction l with
  | nil => intro x hx; cases hx
  | cons e es ih =>
    by_cases hl : e.isLocal = true
    · simp only [nextRemote, hl, if_true] at h
      intro x hx
      rcases List.mem_cons.mp hx with rfl | hx
      · exact hl
      · exact ih h x hx
    · simp [nextRemote, hl] at h

theorem nextRemote_none {evs : List Event} (h : nextRemote evs = none) : remoteOnly evs = [] := by
  simpa [remoteOnly, List.filter_eq_nil_iff] using nextRemote_none_local h

theorem nextRemote_some {evs : List Event} {e : Event} {rest : List Event} (h : nextRemote evs = some (e, rest)) :
    remoteOnly evs = e :: remoteOnly rest ∧ e.isLocal = false ∧
    ∃ pre, evs = pre ++ e :: rest ∧ ∀ x ∈ pre, x.isLocal = true := by
  induction evs with
  | nil => simp [nextRemote] at h
  | cons x es ih =>
    by_cases hl : x.isLocal = true
    · simp only [nextRemote, hl, if_true] at h
      obtain ⟨h1, h2, pre, h3, h4⟩ := ih h
      refine ⟨by rw [remoteOnly_cons_local x es hl, h1], h2, x :: pre, by simp [h3], ?_⟩
      intro y hy
      rcases List.mem_cons.mp hy with rfl | hy
      · exact hl
      · exact h4 y hy
    · have hl' : x.isLocal = false := by simpa using hl
      simp only [nextRemote, hl', Bool.false_eq_true, if_false, Option.some.injEq, Prod.mk.injEq] at h
      obtain ⟨rfl, rfl⟩ := h
      exact ⟨remoteOnly_cons_remote _ _ hl', hl', [], by simp, by simp⟩

theorem handshakeCompletes_remoteOnly (f : VersionInfo → Bool) (evs : List Event) :
    handshakeCompletes f evs =
      (match remoteOnly evs with
       | .remoteFrame vm :: .remoteFrame am :: _ => acceptable f vm && isVerack am
       | _ => false) := by
  rw [handshakeCompletes_eq]
  unfold versionAccepted
  cases h : nextRemote evs with
  | none => simp [nextRemote_none h]
  | some p =>
    obtain ⟨e, rest⟩ := p
    obtain ⟨h1, -, -⟩ := nextRemote_some h
    rw [h1]
    cases e with
    | remoteFrame vm =>
      simp only
      by_cases hv : acceptable f vm = true
      · simp only [hv, if_true]
        unfold ackNext
        cases h2 : nextRemote rest with
        | none => simp [nextRemote_none h2]
        | some q =>
          obtain ⟨e2, rest2⟩ := q
          obtain ⟨h3, -, -⟩ := nextRemote_some h2
          rw [h3]
          cases e2 <;> simp [hv]
      · have hv' : acceptable f vm = false := by simpa using hv
        simp only [hv', Bool.false_eq_true, if_false]
        cases remoteOnly rest with
        | nil => rfl
        | cons e2 r2 => cases e2 <;> simp [hv']
    | _ => simp

theorem hs_locals_run (f : VersionInfo → Bool) (pre : List Event) (s : State) (h : invB s = true)
    (hp : inHandshake s = true) (hl : ∀ x ∈ pre, x.isLocal = true) :
    (runFrom f s pre).1.phase = s.phase := by
  induction pre generalizing s with
  | nil => rfl
  | cons e es ih =>
    have h1 := (hs_local_step f s e h hp (hl e (List.mem_cons_self ..))).1
    rw [runFrom_cons, ← h1]
    exact ih _ (inv_step f s e h) (by simpa only [inHandshake, h1] using hp)
      (fun x hx => hl x (List.mem_cons_of_mem _ hx))

theorem quiet_of_inv {s : State} (h : invB s = true) (hp : inHandshake s = false)
    (hfw : s.flag = false ∨ s.writer = false) : quiet s = true := by
  cases hph : s.phase with
  | awaitVersion => simp [inHandshake, hph] at hp
  | awaitVerack => simp [inHandshake, hph] at hp
  | connected =>
    obtain ⟨hw, -, hd⟩ := inv_connected h hph
    have hfl : s.flag = false := by simpa [hw] using hfw
    simp [quiet, hph, hfl, hd hfl]
  | dead => simp [quiet, hph, inv_dead h hph]

theorem term_step (f : VersionInfo → Bool) (s : State) (e : Event) (h : invB s = true)
    (hp : inHandshake s = false) (ht : terminates e = true) :
    quiet (step f s e).1 = true := by
  have hc := step_cases f s e
  generalize step f s e = r at hc
  cases hc with
  | pongFails | readError => exact quiet_threadFail s
  | flagDown e hp' hfl => simp [quiet, hfl, (inv_connected h hp').2.2 hfl]
  | dead e hp' => simp [quiet, hp', inv_dead h hp']
  | sendRefused m hfw => exact quiet_of_inv h hp hfw
  | sendFails | localDisconnect =>
    revert hp
    simp only [quiet, disconnect, inHandshake]
    cases s.phase <;> simp
  -- the handshake is over, and the other behaviours are those of an event that does not terminate
  | versionAccepted | handshakeCompleted | handshakeFault | delivered | pingAnswered | silence
  | sendWritten => simp_all [inHandshake, terminates]

theorem after_quiet (f : VersionInfo → Bool) (pre post : List Event) (e : Event) (s : State)
    (hq : quiet (step f (runFrom f s pre).1 e).1 = true) :
    (runFrom f s (pre ++ e :: post)).2 = (runFrom f s (pre ++ [e])).2 ++ sendErrs post ∧
    quiet (runFrom f s (pre ++ e :: post)).1 = true := by
  obtain ⟨q1, q2, -⟩ := quiet_run f post _ hq
  simp only [runFrom_append, runFrom_cons, runFrom_nil, List.append_nil, q2, List.append_assoc]
  exact ⟨trivial, q1⟩

theorem sendErrs_eq_replicate (evs : List Event) :
    sendErrs evs = List.replicate (sendCalls evs) (.sendResult (some .illegalState)) := by
  induction evs with
  | nil => rfl
  | cons e es ih =>
    rw [sendErrs_cons, ih]
    cases e <;> simp [sendErrs, sendCalls, List.replicate_succ]

theorem sendErrs_sendResults (evs : List Event) :
    sendResults (sendErrs evs) = List.replicate (sendCalls evs) (some .illegalState) := by
  simp [sendErrs_eq_replicate, sendResults]

theorem sendErrs_silent (evs : List Event) :
    delivered (sendErrs evs) = [] ∧ wires (sendErrs evs) = [] ∧ pongs (sendErrs evs) = [] ∧
    List.count .emitConnected (sendErrs evs) = 0 ∧ List.count .emitDisconnected (sendErrs evs) = 0 ∧
    obsOf (sendErrs evs) = [] := by
  simp [sendErrs_eq_replicate, delivered, wires, pongs, obsOf, List.filterMap_replicate_of_none,
    List.count_replicate]

/-- the definitions unfolded by the per-step case analyses -/
macro "peer_simp" : tactic =>
  `(tactic| simp_all [invB, step, onReadError, threadFail, disconnect, completeHandshake, onFrameConnected,
      handleMessage, send, delivered, pongs, sendResults, wires, pingNonce, applyAnn, annState, quiet, sendErrs,
      remoteFault, acceptable, isVerack, frameOf, isHs, inHandshake, live, benign, Event.isLocal, wireOf])

/-- exhaustive case analysis of the finite control state -/
macro "peer_states" ph:ident fl:ident wr:ident cf:ident df:ident : tactic =>
  `(tactic| (cases $ph:ident <;> cases $fl:ident <;> cases $wr:ident <;> cases $cf:ident <;> cases $df:ident <;> peer_simp))

/-- exhaustive case analysis of one step: event, message kind, the filter's answer, writability,
    control state; every leaf is closed by `peer_simp` -/
macro "peer_step" f:ident s:ident e:ident : tactic =>
  `(tactic|
    (obtain ⟨ph, fl, wr, cf, df, mf, sh, sc⟩ := $s:ident
     cases $e:ident with
     | remoteFrame m =>
       obtain ⟨k, t, w⟩ := m
       cases k with
       | version v => cases hf : $f:ident v <;> peer_states ph fl wr cf df
       | _ => peer_states ph fl wr cf df
     | remoteGarbage g => peer_states ph fl wr cf df
     | remoteClose => peer_states ph fl wr cf df
     | remoteSilence => peer_states ph fl wr cf df
     | localSend m =>
       obtain ⟨k, t, w⟩ := m
       cases w <;> peer_states ph fl wr cf df
     | localDisconnect => peer_states ph fl wr cf df))

end CG.Proofs.Peer
