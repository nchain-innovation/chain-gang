import CG.Model.TxValidate
import CG.Spec.Conservation
/-! Helper lemmas for C04. -/
namespace CG.Proofs.TxValidate
open CG CG.Model.TxValidate
open CG.Spec.Conservation (total)

theorem MAX_eq : MAX = 2100000000000000 := by decide

theorem MAX_eq_spec : MAX = CG.Spec.Conservation.MAX_MONEY := by decide

theorem addI64_small (p : Profile) {a x : Int} (ha0 : 0 ≤ a) (haM : a ≤ MAX) (hx0 : 0 ≤ x)
    (hxM : x ≤ MAX) : addI64 p a x = .ok (a + x) := by
  have := MAX_eq
  unfold addI64
  rw [if_pos]
  constructor <;> omega

theorem total_append (a b : List Int) : total (a ++ b) = total a + total b := by
  induction a with
  | nil => simp [total]
  | cons x xs ih => simp [total, ih]; omega

theorem total_nonneg {ys : List Int} (h : ∀ y ∈ ys, 0 ≤ y) : 0 ≤ total ys := by
  induction ys with
  | nil => simp [total]
  | cons z zs ih =>
    have := h z (by simp)
    have := ih fun w hw => h w (by simp [hw])
    simp only [total]
    omega

theorem sumLoop_repaired_cons (p : Profile) {acc : Int} (h0 : 0 ≤ acc) (hM : acc ≤ MAX) (x : Int)
    (xs : List (Option Int)) :
    sumLoop .repaired p acc (some x :: xs) =
      if x < 0 ∨ x > MAX ∨ acc + x > MAX then .err "BadData"
      else sumLoop .repaired p (acc + x) xs := by
  rw [sumLoop]
  by_cases hx0 : x < 0
  · simp [hx0]
  by_cases hxM : x > MAX
  · simp [hx0, hxM]
  simp only [hx0, hxM, true_and, if_false, false_or,
    addI64_small p h0 hM (show 0 ≤ x by omega) (show x ≤ MAX by omega)]

theorem sumLoop_repaired (p : Profile) : ∀ (xs : List (Option Int)) (acc : Int), 0 ≤ acc → acc ≤ MAX →
    (∀ s, sumLoop .repaired p acc xs ≠ .panic s) ∧
    (∀ tot, sumLoop .repaired p acc xs = .ok tot →
      ∃ ys : List Int, xs = ys.map some ∧ (∀ y ∈ ys, 0 ≤ y) ∧ tot = acc + total ys ∧
        0 ≤ tot ∧ tot ≤ MAX) := by
  intro xs
  induction xs with
  | nil =>
    intro acc h0 hM
    refine ⟨by simp [sumLoop], ?_⟩
    intro tot h
    simp only [sumLoop, Outcome.ok.injEq] at h
    subst h
    exact ⟨[], rfl, by simp, by simp [total], h0, hM⟩
  | cons x xs ih =>
    intro acc h0 hM
    cases x with
    | none => simp [sumLoop]
    | some x =>
      rw [sumLoop_repaired_cons p h0 hM]
      by_cases hbad : x < 0 ∨ x > MAX ∨ acc + x > MAX
      · simp [hbad]
      · rw [if_neg hbad]
        obtain ⟨ih1, ih2⟩ := ih (acc + x) (by omega) (by omega)
        refine ⟨ih1, ?_⟩
        intro tot h
        obtain ⟨ys, e, hn, ht, ht0, htM⟩ := ih2 tot h
        refine ⟨x :: ys, by simp [e], ?_, ?_, ht0, htM⟩
        · intro y hy
          rcases List.mem_cons.mp hy with rfl | hy
          · omega
          · exact hn y hy
        · simp only [total]; omega

theorem sumLoop_repaired_profile (xs : List (Option Int)) : ∀ (acc : Int), 0 ≤ acc → acc ≤ MAX →
    sumLoop .repaired .dev acc xs = sumLoop .repaired .release acc xs := by
  induction xs with
  | nil => intros; rfl
  | cons x xs ih =>
    intro acc h0 hM
    cases x with
    | none => rfl
    | some x =>
      rw [sumLoop_repaired_cons _ h0 hM, sumLoop_repaired_cons _ h0 hM]
      by_cases hbad : x < 0 ∨ x > MAX ∨ acc + x > MAX
      · rw [if_pos hbad, if_pos hbad]
      · rw [if_neg hbad, if_neg hbad]
        exact ih (acc + x) (by omega) (by omega)

theorem sumLoop_repaired_complete (p : Profile) : ∀ (ys : List Int) (acc : Int), 0 ≤ acc →
    (∀ y ∈ ys, 0 ≤ y) → acc + total ys ≤ MAX →
    sumLoop .repaired p acc (ys.map some) = .ok (acc + total ys) := by
  intro ys
  induction ys with
  | nil => intro acc _ _ _; simp [sumLoop, total]
  | cons y ys ih =>
    intro acc h0 hn hM
    have hy0 : 0 ≤ y := hn y (by simp)
    have hn' : ∀ z ∈ ys, 0 ≤ z := fun z hz => hn z (by simp [hz])
    have htot := total_nonneg hn'
    simp only [total] at hM
    rw [List.map_cons, sumLoop_repaired_cons p h0 (by omega), if_neg (by omega),
      ih (acc + y) (by omega) hn' (by omega)]
    simp only [total]
    congr 1; omega

theorem checkedSum_repaired (p : Profile) (xs : List (Option Int)) :
    (∀ s, checkedSum .repaired p xs ≠ .panic s) ∧
    (∀ tot, checkedSum .repaired p xs = .ok tot →
      ∃ ys : List Int, xs = ys.map some ∧ (∀ y ∈ ys, 0 ≤ y) ∧ tot = total ys ∧
        0 ≤ tot ∧ tot ≤ MAX) := by
  have hM : (0 : Int) ≤ MAX := by rw [MAX_eq]; omega
  obtain ⟨h1, h2⟩ := sumLoop_repaired p xs 0 (by omega) hM
  unfold checkedSum
  constructor
  · intro s
    cases h : sumLoop .repaired p 0 xs with
    | ok t => simp
    | err e => simp
    | panic s' => exact absurd h (h1 s')
  · intro tot
    cases h : sumLoop .repaired p 0 xs with
    | ok t =>
      simp only [reduceCtorEq, false_and, if_false, Outcome.ok.injEq]
      intro e; subst e
      obtain ⟨ys, e, hn, ht, ht0, htM⟩ := h2 t h
      exact ⟨ys, e, hn, by omega, ht0, htM⟩
    | err e => simp
    | panic s' => simp

theorem checkedSum_repaired_profile (xs : List (Option Int)) :
    checkedSum .repaired .dev xs = checkedSum .repaired .release xs := by
  have hM : (0 : Int) ≤ MAX := by rw [MAX_eq]; omega
  unfold checkedSum
  rw [sumLoop_repaired_profile xs 0 (by omega) hM]

theorem checkedSum_repaired_complete (p : Profile) (ys : List Int) (hn : ∀ y ∈ ys, 0 ≤ y)
    (hM : total ys ≤ MAX) : checkedSum .repaired p (ys.map some) = .ok (total ys) := by
  unfold checkedSum
  rw [sumLoop_repaired_complete p ys 0 (by omega) hn (by omega)]
  simp

theorem dupLoop_false_iff (l : List OutPoint) : ∀ seen : List OutPoint,
    dupLoop seen l = false ↔ (l.Pairwise (· ≠ ·) ∧ ∀ x ∈ l, x ∉ seen) := by
  induction l with
  | nil => intro seen; simp [dupLoop]
  | cons x xs ih =>
    intro seen
    unfold dupLoop
    by_cases hc : seen.contains x = true
    · simp only [hc, if_true, Bool.true_eq_false, false_iff]
      rintro ⟨_, h⟩
      exact h x (by simp) (by simpa using hc)
    · have hx : x ∉ seen := by simpa using hc
      simp only [hc, Bool.false_eq_true, if_false, ih, List.pairwise_cons, List.mem_cons]
      constructor
      · rintro ⟨hp, hs⟩
        refine ⟨⟨?_, hp⟩, ?_⟩
        · intro a ha e
          subst e
          exact hs x ha (by simp)
        · intro y hy
          rcases hy with rfl | hy
          · exact hx
          · intro hys
            exact hs y hy (by simp [hys])
      · rintro ⟨⟨hne, hp⟩, hs⟩
        refine ⟨hp, ?_⟩
        intro y hy hys
        rcases hys with rfl | hys
        · exact hne y hy rfl
        · exact hs y (Or.inr hy) hys

theorem dupLoop_nil_false_iff (l : List OutPoint) :
    dupLoop [] l = false ↔ l.Pairwise (· ≠ ·) := by
  rw [dupLoop_false_iff]; simp

theorem scriptLoop_spec (utxos : Utxos) (ok : Nat → Outcome Bool) : ∀ (ins : List TxIn) (i : Nat),
    (∀ t ∈ ins, (utxos t.prevOutput).isSome = true) →
    ((∀ j s, ok j ≠ .panic s) → ∀ s, scriptLoop utxos ok i ins ≠ .panic s) ∧
    (scriptLoop utxos ok i ins = .ok () ↔ ∀ j, j < ins.length → ok (i + j) = .ok true) := by
  intro ins
  induction ins with
  | nil => intro i _; simp [scriptLoop]
  | cons t rest ih =>
    intro i hp
    have hpt := hp t (by simp)
    obtain ⟨ih1, ih2⟩ := ih (i + 1) (fun t' ht' => hp t' (by simp [ht']))
    unfold scriptLoop
    cases hu : utxos t.prevOutput with
    | none => simp [hu] at hpt
    | some o =>
      simp only
      constructor
      · intro hnp s
        cases hk : ok i with
        | ok b => cases b <;> simp [ih1 hnp]
        | err e => simp
        | panic s' => exact absurd hk (hnp i s')
      · cases hk : ok i with
        | ok b =>
          cases b
          · simp only [reduceCtorEq, false_iff]
            intro h
            have := h 0 (by simp)
            simp [hk] at this
          · simp only [ih2, List.length_cons]
            constructor
            · intro h j hj
              cases j with
              | zero => simpa using hk
              | succ j =>
                have := h j (by omega)
                rw [show i + (j + 1) = i + 1 + j by omega]; exact this
            · intro h j hj
              have := h (j + 1) (by omega)
              rw [show i + 1 + j = i + (j + 1) by omega]; exact this
        | err e =>
          simp only [reduceCtorEq, false_iff]
          intro h
          have := h 0 (by simp)
          simp [hk] at this
        | panic s' =>
          simp only [reduceCtorEq, false_iff]
          intro h
          have := h 0 (by simp)
          simp [hk] at this

open CG.Spec.Conservation (View Accepts PayloadAccepts Ref coinbaseRef inputAmounts MAX_MONEY)

def refOf (o : OutPoint) : Ref := (o.hash, o.index)

def passes : Outcome Bool → Bool
  | .ok true => true
  | _ => false

def viewOf (tx : Tx) (utxos : Utxos) (scriptOk : Nat → Outcome Bool) : View where
  inputs := tx.inputs.map (fun i => refOf i.prevOutput)
  spent := fun r => (utxos ⟨r.1, r.2⟩).map (·.satoshis)
  outputs := tx.outputs.map (·.satoshis)
  lockTime := tx.lockTime
  scriptPass := fun i => passes (scriptOk i)

theorem refOf_inj {a b : OutPoint} (h : refOf a = refOf b) : a = b := by
  cases a; cases b; simp [refOf] at h; simp [h]

theorem map_eq_map_some {α β} (f : α → Option β) : ∀ (l : List α) (ys : List β),
    l.map f = ys.map some → l.filterMap f = ys ∧ ∀ x ∈ l, (f x).isSome = true := by
  intro l
  induction l with
  | nil => intro ys h; cases ys <;> simp_all
  | cons a l ih =>
    intro ys h
    cases ys with
    | nil => simp at h
    | cons y ys =>
      simp only [List.map_cons, List.cons.injEq] at h
      obtain ⟨h1, h2⟩ := ih ys h.2
      refine ⟨by simp [h.1, h1], ?_⟩
      intro x hx
      rcases List.mem_cons.mp hx with rfl | hx
      · simp [h.1]
      · exact h2 x hx

theorem map_some_filterMap {α β} (f : α → Option β) : ∀ (l : List α),
    (∀ x ∈ l, (f x).isSome = true) → l.map f = (l.filterMap f).map some := by
  intro l
  induction l with
  | nil => simp
  | cons a l ih =>
    intro h
    have ha := h a (by simp)
    cases hf : f a with
    | none => simp [hf] at ha
    | some b =>
      simp only [List.map_cons, List.filterMap_cons, hf, List.cons.injEq, true_and]
      exact ih (fun x hx => h x (by simp [hx]))

theorem inputAmounts_view (tx : Tx) (utxos : Utxos) (sok : Nat → Outcome Bool) :
    inputAmounts (viewOf tx utxos sok)
      = tx.inputs.filterMap (fun i => (utxos i.prevOutput).map (·.satoshis)) := by
  simp only [inputAmounts, viewOf, List.filterMap_map]
  rfl

theorem isCoinbaseRef_iff (o : OutPoint) : isCoinbaseRef o = true ↔ refOf o = coinbaseRef := by
  cases o with
  | mk h i =>
    simp only [isCoinbaseRef, refOf, coinbaseRef, COINBASE_HASH, COINBASE_INDEX, Prod.mk.injEq]
    have : (2 : Nat) ^ 32 - 1 = 0xffffffff := by decide
    rw [this]
    exact decide_eq_true_iff

theorem passes_iff (o : Outcome Bool) : passes o = true ↔ o = .ok true := by
  cases o with
  | ok b => cases b <;> simp [passes]
  | err e => simp [passes]
  | panic s => simp [passes]

/-! `validate` is a chain of guards `if c then .err e else k`; each is peeled off the front, so every
step works on the remaining chain only. -/

theorem guard_eq_ok {α : Type} {c : Prop} [Decidable c] {e : String} {k : Outcome α} {v : α} :
    (if c then .err e else k) = .ok v ↔ ¬ c ∧ k = .ok v := by
  by_cases h : c <;> simp [h]

theorem guard_ne_panic {α : Type} {c : Prop} [Decidable c] {e s : String} {k : Outcome α}
    (h : k ≠ .panic s) : (if c then .err e else k) ≠ .panic s := by
  split
  · nofun
  · exact h

theorem validate_ok_iff_guards (p : Profile) (g : Bool) (tx : Tx) (utxos : Utxos)
    (sok : Nat → Outcome Bool) :
    validate p g tx utxos sok = .ok () ↔
      tx.inputs ≠ [] ∧ tx.outputs ≠ [] ∧
      ∃ totalOut, checkedSum .repaired p (outAmounts tx.outputs) = .ok totalOut ∧
        tx.inputs.any (fun i => isCoinbaseRef i.prevOutput) = false ∧
        dupLoop [] (tx.inputs.map (·.prevOutput)) = false ∧
        tx.lockTime ≤ 2147483647 ∧
        ∃ totalIn, checkedSum .repaired p (inAmounts utxos tx.inputs) = .ok totalIn ∧
          totalOut ≤ totalIn ∧
          scriptLoop utxos sok 0 tx.inputs = .ok () ∧
          ¬ (g = true ∧ tx.outputs.any (fun o => isP2sh o.lockScript) = true) := by
  unfold validate validateWith
  refine guard_eq_ok.trans (and_congr (by simp) ?_)
  refine guard_eq_ok.trans (and_congr (by simp) ?_)
  cases checkedSum .repaired p (outAmounts tx.outputs) with
  | err e => simp
  | panic s => simp
  | ok totalOut =>
    simp only [Outcome.ok.injEq, exists_eq_left']
    refine guard_eq_ok.trans (and_congr (by simp) ?_)
    refine guard_eq_ok.trans (and_congr (by simp) ?_)
    refine guard_eq_ok.trans (and_congr (by omega) ?_)
    cases checkedSum .repaired p (inAmounts utxos tx.inputs) with
    | err e => simp
    | panic s => simp
    | ok totalIn =>
      simp only [Outcome.ok.injEq, exists_eq_left']
      refine guard_eq_ok.trans (and_congr (by omega) ?_)
      cases scriptLoop utxos sok 0 tx.inputs with
      | err e => simp
      | panic s => simp
      | ok u => simp only [true_and]; exact guard_eq_ok.trans (and_iff_left rfl)

theorem validate_ok_iff (p : Profile) (g : Bool) (tx : Tx) (utxos : Utxos) (sok : Nat → Outcome Bool) :
    validate p g tx utxos sok = .ok () ↔
      (tx.inputs ≠ [] ∧ tx.outputs ≠ [] ∧ Accepts (viewOf tx utxos sok) ∧
        ¬ (g = true ∧ tx.outputs.any (fun o => isP2sh o.lockScript) = true)) := by
  have hMM := MAX_eq_spec
  obtain ⟨_, hOutOk⟩ := checkedSum_repaired p (outAmounts tx.outputs)
  obtain ⟨_, hInOk⟩ := checkedSum_repaired p (inAmounts utxos tx.inputs)
  rw [validate_ok_iff_guards]
  constructor
  · rintro ⟨hin, hout, totalOut, hOut, hcb, hdup, hlt, totalIn, hIn, hcons, hscr, hp2sh⟩
    obtain ⟨ysO, eO, hnO, htO, _, hMO⟩ := hOutOk totalOut hOut
    obtain ⟨ysI, eI, hnI, htI, _, hMI⟩ := hInOk totalIn hIn
    have eO' : tx.outputs.map (·.satoshis) = ysO := by
      have := congrArg (List.filterMap id) eO
      simpa [outAmounts, List.filterMap_map] using this
    obtain ⟨eI', hpres⟩ := map_eq_map_some _ _ _ eI
    refine ⟨hin, hout, ?_, hp2sh⟩
    have hpres : ∀ t ∈ tx.inputs, (utxos t.prevOutput).isSome = true := by
      intro t ht; simpa using hpres t ht
    have hscr' := (scriptLoop_spec utxos sok tx.inputs 0 hpres).2.mp hscr
    constructor
    case present =>
      intro r hr
      simp only [viewOf, List.mem_map] at hr
      obtain ⟨i, hi, rfl⟩ := hr
      have := hpres i hi
      simpa [viewOf, refOf] using this
    case distinct =>
      simp only [viewOf, List.pairwise_map]
      rw [dupLoop_nil_false_iff, List.pairwise_map] at hdup
      exact hdup.imp (fun hne e => hne (refOf_inj e))
    case outNonneg =>
      intro a ha
      simp only [viewOf] at ha
      rw [eO'] at ha
      exact hnO a ha
    case inNonneg =>
      rw [inputAmounts_view, eI']
      exact hnI
    case inSum =>
      rw [inputAmounts_view, eI', ← hMM, ← htI]
      exact hMI
    case outSum =>
      simp only [viewOf]
      rw [eO', ← hMM, ← htO]
      exact hMO
    case conserve =>
      rw [inputAmounts_view, eI']
      simp only [viewOf]
      rw [eO', ← htO, ← htI]
      exact hcons
    case lockTime =>
      simp only [viewOf]
      omega
    case noCoinbase =>
      intro r hr
      simp only [viewOf, List.mem_map] at hr
      obtain ⟨i, hi, rfl⟩ := hr
      intro e
      have := (isCoinbaseRef_iff i.prevOutput).mpr e
      rw [Bool.eq_false_iff] at hcb
      apply hcb
      simp only [List.any_eq_true]
      exact ⟨i, hi, this⟩
    case scripts =>
      intro i hi
      simp only [viewOf, List.length_map] at hi ⊢
      rw [passes_iff]
      simpa using hscr' i hi
  · rintro ⟨hin, hout, hacc, hp2sh⟩
    obtain ⟨hpres, hdist, hoN, hiN, hiS, hoS, hcons, hlt, hncb, hscr⟩ := hacc
    have hpres' : ∀ t ∈ tx.inputs, (utxos t.prevOutput).isSome = true := by
      intro t ht
      have := hpres (refOf t.prevOutput) (by simp only [viewOf, List.mem_map]; exact ⟨t, ht, rfl⟩)
      simpa [viewOf, refOf] using this
    have hpres'' : ∀ t ∈ tx.inputs, ((utxos t.prevOutput).map (·.satoshis)).isSome = true := by
      intro t ht; simpa using hpres' t ht
    rw [inputAmounts_view] at hiN hiS hcons
    have eO : outAmounts tx.outputs = (tx.outputs.map (·.satoshis)).map some := by
      simp [outAmounts, List.map_map]
    have eI : inAmounts utxos tx.inputs
        = (tx.inputs.filterMap (fun i => (utxos i.prevOutput).map (·.satoshis))).map some :=
      map_some_filterMap _ _ hpres''
    have hoN' : ∀ a ∈ tx.outputs.map (fun o : TxOut => o.satoshis), 0 ≤ a := hoN
    have hoS' : total (tx.outputs.map (fun o : TxOut => o.satoshis)) ≤ MAX_MONEY := hoS
    have hO := checkedSum_repaired_complete p (tx.outputs.map (fun o : TxOut => o.satoshis)) hoN'
      (by rw [hMM]; exact hoS')
    have hI := checkedSum_repaired_complete p _ hiN (by rw [hMM]; exact hiS)
    rw [← eO] at hO
    rw [← eI] at hI
    refine ⟨hin, hout, _, hO, ?_, ?_, ?_, _, hI, hcons, ?_, hp2sh⟩
    · rw [Bool.eq_false_iff]
      intro h
      simp only [List.any_eq_true] at h
      obtain ⟨i, hi, hc⟩ := h
      exact hncb (refOf i.prevOutput) (by simp only [viewOf, List.mem_map]; exact ⟨i, hi, rfl⟩)
        ((isCoinbaseRef_iff _).mp hc)
    · rw [dupLoop_nil_false_iff, List.pairwise_map]
      simp only [viewOf, List.pairwise_map] at hdist
      exact hdist.imp (fun hne e => hne (by rw [e]))
    · simp only [viewOf] at hlt; omega
    · rw [(scriptLoop_spec utxos sok tx.inputs 0 hpres').2]
      intro j hj
      have := hscr j (by simpa [viewOf] using hj)
      simp only [viewOf] at this
      simpa using (passes_iff _).mp this

theorem validate_no_panic (p : Profile) (g : Bool) (tx : Tx) (utxos : Utxos) (sok : Nat → Outcome Bool)
    (hsok : ∀ j s, sok j ≠ .panic s) : ∀ s, validate p g tx utxos sok ≠ .panic s := by
  obtain ⟨hOutNP, _⟩ := checkedSum_repaired p (outAmounts tx.outputs)
  obtain ⟨hInNP, hInOk⟩ := checkedSum_repaired p (inAmounts utxos tx.inputs)
  intro s
  unfold validate validateWith
  refine guard_ne_panic (guard_ne_panic ?_)
  cases hOut : checkedSum .repaired p (outAmounts tx.outputs) with
  | err e => nofun
  | panic s' => exact absurd hOut (hOutNP s')
  | ok totalOut =>
    refine guard_ne_panic (guard_ne_panic (guard_ne_panic ?_))
    cases hIn : checkedSum .repaired p (inAmounts utxos tx.inputs) with
    | err e => nofun
    | panic s' => exact absurd hIn (hInNP s')
    | ok totalIn =>
      refine guard_ne_panic ?_
      obtain ⟨ysI, eI, _⟩ := hInOk totalIn hIn
      obtain ⟨_, hpres⟩ := map_eq_map_some _ _ _ eI
      have hpres' : ∀ t ∈ tx.inputs, (utxos t.prevOutput).isSome = true := by
        intro t ht; simpa using hpres t ht
      cases hS : scriptLoop utxos sok 0 tx.inputs with
      | err e => nofun
      | panic s' => exact absurd hS ((scriptLoop_spec utxos sok tx.inputs 0 hpres').1 hsok s')
      | ok u => exact guard_ne_panic nofun

theorem validate_profile (g : Bool) (tx : Tx) (utxos : Utxos) (sok : Nat → Outcome Bool) :
    validate .dev g tx utxos sok = validate .release g tx utxos sok := by
  unfold validate validateWith
  rw [checkedSum_repaired_profile (outAmounts tx.outputs),
    checkedSum_repaired_profile (inAmounts utxos tx.inputs)]

theorem payloadTx_ok_iff (p : Profile) (tx : Tx) :
    payloadTxWith .repaired p tx = .ok () ↔
      (tx.inputs ≠ [] ∧ tx.outputs ≠ [] ∧ PayloadAccepts (tx.outputs.map (·.satoshis))) := by
  have hMM := MAX_eq_spec
  have eO : outAmounts tx.outputs = (tx.outputs.map (·.satoshis)).map some := by
    simp [outAmounts, List.map_map]
  unfold payloadTxWith
  refine guard_eq_ok.trans (and_congr (by simp) ?_)
  refine guard_eq_ok.trans (and_congr (by simp) ?_)
  constructor
  · intro h
    cases hOut : checkedSum .repaired p (outAmounts tx.outputs) with
    | err e => rw [hOut] at h; cases h
    | panic s => rw [hOut] at h; cases h
    | ok totalOut =>
      obtain ⟨ysO, eO', hnO, htO, _, hMO⟩ := (checkedSum_repaired p _).2 totalOut hOut
      rw [eO] at eO'
      rw [(List.map_inj_right (fun _ _ => Option.some.inj)).mp eO']
      exact ⟨hnO, by rw [← hMM, ← htO]; exact hMO⟩
  · rintro ⟨hoN, hoS⟩
    rw [eO, checkedSum_repaired_complete p _ hoN (by rw [hMM]; exact hoS)]

theorem payloadTx_no_panic (p : Profile) (tx : Tx) : ∀ s, payloadTxWith .repaired p tx ≠ .panic s := by
  intro s
  unfold payloadTxWith
  refine guard_ne_panic (guard_ne_panic ?_)
  cases hOut : checkedSum .repaired p (outAmounts tx.outputs) with
  | err e => nofun
  | panic s' => exact absurd hOut ((checkedSum_repaired p _).1 s')
  | ok totalOut => nofun

theorem payloadLoop_spec (p : Profile) : ∀ txs : List Tx,
    (∀ s, payloadLoop .repaired p txs ≠ .panic s) ∧
    (payloadLoop .repaired p txs = .ok () ↔
      ∀ tx ∈ txs, tx.inputs ≠ [] ∧ tx.outputs ≠ [] ∧ PayloadAccepts (tx.outputs.map (·.satoshis))) := by
  intro txs
  induction txs with
  | nil => simp [payloadLoop]
  | cons tx rest ih =>
    unfold payloadLoop
    cases h : payloadTxWith .repaired p tx with
    | ok u =>
      cases u
      have := (payloadTx_ok_iff p tx).mp h
      simp only [List.mem_cons, forall_eq_or_imp]
      exact ⟨ih.1, by rw [ih.2]; exact ⟨fun hr => ⟨this, hr⟩, fun hr => hr.2⟩⟩
    | err e =>
      refine ⟨by simp, ?_⟩
      simp only [reduceCtorEq, false_iff, List.mem_cons, forall_eq_or_imp, not_and]
      intro hc
      have := (payloadTx_ok_iff p tx).mpr hc
      simp [h] at this
    | panic s => exact absurd h (payloadTx_no_panic p tx s)

theorem payloadLoop_profile : ∀ txs : List Tx,
    payloadLoop .repaired .dev txs = payloadLoop .repaired .release txs := by
  intro txs
  induction txs with
  | nil => rfl
  | cons tx rest ih =>
    unfold payloadLoop payloadTxWith
    rw [checkedSum_repaired_profile, ih]

end CG.Proofs.TxValidate
