import CG.Model.Framing
import CG.Spec.Reassembly
/-!
Helper lemmas for C11: the transport, `AtomicReader::read`, `read_exact`, the framing functions
and the receive loop, each related to the reader-free reference `CG.Spec.Reassembly`.

Every model function gets one specification, a predicate on its whole result that says what each
outcome means for the unread stream `pending r` and the progress measure `mu r`; the function one
level up is proved by looking at the outcomes of the call it makes.
-/
namespace CG.Proofs.Framing
open CG CG.Model.AtomicReader CG.Model.Framing
open CG.Spec.Reassembly (Wire Step Kind step stepBody parseAll parseFrom)

def mu (r : Rd) : Nat := r.t.sched.length + r.t.data.length

theorem read_spec (t : Transport) (cap : Nat) :
    match t.read cap with
    | (.ok bs, t') => bs ++ t'.data = t.data ∧ bs.length ≤ cap ∧ t'.sched.length ≤ t.sched.length ∧
        (bs = [] → cap = 0 ∨ t.data = [])
    | (.timedOut, t') => t'.data = t.data ∧ t'.sched.length + 1 = t.sched.length := by
  obtain ⟨data, sched⟩ := t
  rcases sched with _ | ⟨_ | a, s⟩
  · simp [Transport.read]
    exact Nat.min_le_left _ _
  · simp [Transport.read]
  · simp [Transport.read]
    omega

/-- the shared tail of the second and third branch of `AtomicReader::read` -/
def finish (r : Rd) (n cap : Nat) : AR × Rd :=
  match r.t.read cap with
  | (.timedOut, t') => (.timedOut, { r with t := t' })
  | (.ok bs, t') =>
    if bs.length = 0 then (.disconnected, { r with t := t' })
    else if r.buf.length + bs.length < n then (.timedOut, { buf := r.buf ++ bs, t := t' })
    else (.full (r.buf ++ bs), { buf := [], t := t' })

/-- what these branches ask of the transport: the missing bytes, at most `MAX_BUFFER_SIZE` -/
def capOf (r : Rd) (n : Nat) : Nat :=
  if n - r.buf.length > MAX_BUFFER_SIZE then MAX_BUFFER_SIZE else n - r.buf.length

theorem aread_eq (r : Rd) (n : Nat) :
    aread r n = if r.buf.length ≥ n then (.full (r.buf.take n), { r with buf := r.buf.drop n })
                else finish r n (capOf r n) := by
  obtain ⟨buf, t⟩ := r
  cases buf with
  | nil =>
    simp [aread, finish, capOf]
    rfl
  | cons b bs =>
    simp only [aread, finish, capOf, List.length_cons, gt_iff_lt, Nat.zero_lt_succ, if_true]
    rfl

/-- what an answer of `AtomicReader::read` to a request for `n` bytes means for the unread stream -/
def AreadSpec (r : Rd) (n : Nat) : AR × Rd → Prop
  | (.full bs, r') => bs.length = n ∧ bs ++ pending r' = pending r ∧ mu r' ≤ mu r
  | (.timedOut, r') => pending r' = pending r ∧ mu r' < mu r
  | (.disconnected, r') => pending r' = pending r ∧ (pending r).length < n ∧ mu r' ≤ mu r

theorem aread_spec (r : Rd) (n : Nat) : AreadSpec r n (aread r n) := by
  rw [aread_eq]
  by_cases h : r.buf.length ≥ n
  · simp [h, AreadSpec, pending, mu, ← List.append_assoc]
  · have hc : 0 < capOf r n ∧ capOf r n ≤ n - r.buf.length := by
      unfold capOf MAX_BUFFER_SIZE
      split <;> omega
    have hr := read_spec r.t (capOf r n)
    rw [if_neg h]
    unfold finish
    generalize r.t.read (capOf r n) = x at hr ⊢
    obtain ⟨bs | _, t'⟩ := x <;> simp only at hr ⊢
    · obtain ⟨e1, e2, e3, e4⟩ := hr
      have e5 := congrArg List.length e1
      simp only [List.length_append] at e5
      split
      · -- no bytes although some were asked for: the data is used up
        have hb : bs = [] := List.length_eq_zero_iff.mp ‹_›
        have hd := (e4 hb).resolve_left (by omega)
        subst hb
        rw [hd, List.nil_append] at e1
        simp [AreadSpec, pending, mu, e1, hd]
        omega
      · split
        · -- still short of `n`: the bytes move from the transport into the buffer, which leaves
          -- `pending` alone; `mu` falls because `bs` is not empty
          simp [AreadSpec, pending, mu, ← e1]
          omega
        · -- enough: `bs.length ≤ capOf r n ≤ n - r.buf.length` makes it exactly `n`
          simp [AreadSpec, pending, mu, ← e1]
          omega
    · -- a scheduled timeout uses up its schedule entry
      simp [AreadSpec, pending, mu, hr.1]
      omega

/-- what an answer of `read_exact` means for the unread stream (compare `AreadSpec`) -/
def ExactSpec (r : Rd) (n : Nat) : Res Bytes × Rd → Prop
  | (.ok bs, r') => bs.length = n ∧ bs ++ pending r' = pending r ∧ mu r' ≤ mu r
  | (.timedOut, r') => pending r' = pending r ∧ mu r' < mu r
  | (.err e, _) => e = DISCONNECTED ∧ (pending r).length < n

theorem readExact_spec (r : Rd) (n : Nat) : ExactSpec r n (readExact r n) := by
  have ha := aread_spec r n
  unfold readExact
  split
  · simp [ExactSpec, *]
  · generalize aread r n = x at ha ⊢
    obtain ⟨bs | _ | _, r'⟩ := x
    · exact ha
    · exact ha
    · exact ⟨rfl, ha.2.1⟩

/-- an outcome of a reader-level operation against a parser `ref` of the unread stream -/
def Refines {α : Type} (ref : Bytes → Step α) (r : Rd) : Res α × Rd → Prop
  | (.ok a, r') => ref (pending r) = .msg a (pending r') ∧ mu r' ≤ mu r
  | (.timedOut, r') => pending r' = pending r ∧ mu r' < mu r
  | (.err e, _) => ref (pending r) = .stop e

variable {Msg : Type}

def toKind : CmdKind → Kind
  | .payload => .payload
  | .bare => .bare
  | .other => .other

def toWire (c : Cfg Msg) : Wire Msg :=
  { magic := c.magic, maxPayload := c.maxPayload, blockCmd := c.blockCmd, H := c.H,
    kind := fun x => toKind (c.kind x), decode := c.decode, bare := c.bare, other := c.other }

theorem readPartial_refines (c : Cfg Msg) (r : Rd) (h : Header) :
    Refines (stepBody (toWire c) h.command h.payloadSize h.checksum) r (readPartial c r h) := by
  have hre := readExact_spec r h.payloadSize
  unfold readPartial payload stepBody
  simp only [toWire]
  generalize readExact r h.payloadSize = x at hre
  cases c.kind h.command <;> simp only [toKind]
  · -- payload-carrying command: `payload`, then the codec
    obtain ⟨p | _ | e, r'⟩ := x <;> simp only [ExactSpec] at hre ⊢
    · obtain ⟨hl, hX, hmu⟩ := hre
      -- the reference sees `p ++ pending r'` (`← hX`) with `p` of the announced size (`← hl`): its
      -- test for too few bytes fails (`Nat.not_lt_of_le`), its `take`/`drop` cut at the end of `p`
      by_cases hck : (c.H p).take 4 = h.checksum
      · cases hd : c.decode h.command p <;>
          simp [Refines, ← hX, ← hl, Nat.not_lt_of_le, hck, hd, hmu]
      · simp [Refines, ← hX, ← hl, Nat.not_lt_of_le, hck, CG.Spec.Reassembly.BAD_DATA]
    · exact hre
    · simp [Refines, hre.1, hre.2, DISCONNECTED, CG.Spec.Reassembly.DISCONNECTED]
  · -- payload-less command: nothing is read
    by_cases h0 : h.payloadSize = 0 <;> simp [Refines, h0, CG.Spec.Reassembly.BAD_DATA]
  · -- unknown command: `payload` only when a size is announced
    by_cases h0 : h.payloadSize = 0
    · simp [Refines, h0]
    · have hpos : h.payloadSize > 0 := by omega
      simp only [hpos, h0, if_true, if_false]
      obtain ⟨p | _ | e, r'⟩ := x <;> simp only [ExactSpec] at hre ⊢
      · obtain ⟨hl, hX, hmu⟩ := hre
        by_cases hck : (c.H p).take 4 = h.checksum
        · simp [Refines, ← hX, ← hl, Nat.not_lt_of_le, hck, hmu]
        · simp [Refines, ← hX, ← hl, Nat.not_lt_of_le, hck, CG.Spec.Reassembly.BAD_DATA]
      · exact hre
      · simp [Refines, hre.1, hre.2, DISCONNECTED, CG.Spec.Reassembly.DISCONNECTED]

theorem step_header (w : Wire Msg) (p Y : Bytes) (hp : p.length = 24) :
    step w (p ++ Y) =
      (if (parseHeader p).magic ≠ w.magic then .stop CG.Spec.Reassembly.BAD_DATA
       else if (parseHeader p).command ≠ w.blockCmd ∧ (parseHeader p).payloadSize > w.maxPayload then
         .stop CG.Spec.Reassembly.BAD_DATA
       else stepBody w (parseHeader p).command (parseHeader p).payloadSize (parseHeader p).checksum Y) := by
  unfold step CG.Spec.Reassembly.field parseHeader
  simp [hp, List.take_append_of_le_length, List.drop_append_of_le_length, List.take_of_length_le]
  omega

theorem step_validate (c : Cfg Msg) (p Y : Bytes) (hp : p.length = 24) :
    step (toWire c) (p ++ Y) =
      match validate c (parseHeader p) with
      | .ok () =>
        stepBody (toWire c) (parseHeader p).command (parseHeader p).payloadSize (parseHeader p).checksum Y
      | .error e => .stop e := by
  rw [step_header _ _ _ hp]
  show (if (parseHeader p).magic ≠ c.magic then _
    else if (parseHeader p).command ≠ c.blockCmd ∧ (parseHeader p).payloadSize > c.maxPayload then _
    else _) = _
  unfold validate
  by_cases h1 : (parseHeader p).magic ≠ c.magic
  · simp only [if_pos h1]
    rfl
  · by_cases h2 : (parseHeader p).command ≠ c.blockCmd ∧ (parseHeader p).payloadSize > c.maxPayload
    · simp only [if_neg h1, if_pos h2]
      rfl
    · simp only [if_neg h1, if_neg h2]

theorem step_short (w : Wire Msg) (X : Bytes) (h : X.length < 24) :
    step w X = .stop CG.Spec.Reassembly.DISCONNECTED := by
  unfold step
  rw [if_pos h]

/-- `Partial(header)`: the header has been consumed and accepted, the body is still to be read -/
def MessageSpec (c : Cfg Msg) (r : Rd) : Res (ReadOk Msg) × Rd → Prop
  | (.ok (.msg m), r') => step (toWire c) (pending r) = .msg m (pending r') ∧ mu r' ≤ mu r
  | (.ok (.partialHdr h), r') =>
    step (toWire c) (pending r) = stepBody (toWire c) h.command h.payloadSize h.checksum (pending r') ∧
      mu r' < mu r
  | (.timedOut, r') => pending r' = pending r ∧ mu r' < mu r
  | (.err e, _) => step (toWire c) (pending r) = .stop e

theorem messageRead_spec (c : Cfg Msg) (r : Rd) : MessageSpec c r (messageRead c r) := by
  have hre := readExact_spec r HEADER_SIZE
  unfold messageRead headerRead
  generalize readExact r HEADER_SIZE = x at hre ⊢
  obtain ⟨p | _ | e, r1⟩ := x <;> simp only [ExactSpec] at hre ⊢
  · obtain ⟨hp, hX, hmu⟩ := hre
    have hs := step_validate c p (pending r1) hp
    rw [hX] at hs
    have hrp := readPartial_refines c r1 (parseHeader p)
    generalize readPartial c r1 (parseHeader p) = y at hrp ⊢
    generalize validate c (parseHeader p) = v at hs ⊢
    cases v with
    | error e => exact hs
    | ok u =>
      obtain ⟨m | _ | e, r2⟩ := y <;> simp only [Refines, MessageSpec] at hrp hs ⊢
      · exact ⟨hs.trans hrp.1, by omega⟩
      · rw [hrp.1]; exact ⟨hs, by omega⟩
      · exact hs.trans hrp
  · exact hre
  · rw [hre.1]; exact step_short _ _ hre.2

/-- the reference continuation of a loop state -/
def specStep (w : Wire Msg) (o : Option Header) (X : Bytes) : Step Msg :=
  match o with
  | none => step w X
  | some h => stepBody w h.command h.payloadSize h.checksum X

/-- one pass of the loop; a `continue` leaves the reference continuation as it was -/
def IterSpec (c : Cfg Msg) (s : LoopState) : Iter Msg → Prop
  | .emit m s' => s'.partialHdr = none ∧
      specStep (toWire c) s.partialHdr (pending s.r) = .msg m (pending s'.r) ∧ mu s'.r ≤ mu s.r
  | .cont s' =>
      specStep (toWire c) s'.partialHdr (pending s'.r) = specStep (toWire c) s.partialHdr (pending s.r) ∧
      mu s'.r < mu s.r
  | .stop e => specStep (toWire c) s.partialHdr (pending s.r) = .stop e

theorem iter_spec (c : Cfg Msg) (s : LoopState) : IterSpec c s (iter c s) := by
  obtain ⟨o, r⟩ := s
  unfold iter
  cases o <;> simp only
  case some h =>
    have hp := readPartial_refines c r h
    generalize readPartial c r h = x at hp ⊢
    obtain ⟨m | _ | e, r'⟩ := x <;> simp only [Refines] at hp
    · exact ⟨rfl, hp⟩
    · exact ⟨by simp only [specStep, hp.1], hp.2⟩
    · exact hp
  case none =>
    have hm := messageRead_spec c r
    generalize messageRead c r = x at hm ⊢
    obtain ⟨(m | h) | _ | e, r'⟩ := x <;> simp only [MessageSpec] at hm
    · exact ⟨rfl, hm⟩
    · exact ⟨hm.1.symm, hm.2⟩
    · exact ⟨by simp only [specStep, hm.1], hm.2⟩
    · exact hm

def hdrOf (o : Option Header) : Option (Bytes × Nat × Bytes) :=
  o.map fun h => (h.command, h.payloadSize, h.checksum)

theorem parseAll_eq (w : Wire Msg) (X : Bytes) :
    parseAll w X = match step w X with
      | .msg m X' => (m :: (parseAll w X').1, (parseAll w X').2)
      | .stop e => ([], e) := by
  rw [parseAll]
  split <;> simp [*]

theorem parseFrom_eq (w : Wire Msg) (o : Option Header) (X : Bytes) :
    parseFrom w (hdrOf o) X = match specStep w o X with
      | .msg m X' => (m :: (parseAll w X').1, (parseAll w X').2)
      | .stop e => ([], e) := by
  cases o with
  | none => exact parseAll_eq w X
  | some h => rfl

def refOf (c : Cfg Msg) (s : LoopState) : List Msg × String :=
  parseFrom (toWire c) (hdrOf s.partialHdr) (pending s.r)

theorem refOf_init (c : Cfg Msg) (stream : Bytes) (sched : List Nat) :
    refOf c (LoopState.init stream sched) = parseAll (toWire c) stream := rfl

/-- fuel bound: every pass emits a message or lowers `mu` -/
theorem loop_spec (c : Cfg Msg) (fuel : Nat) (s : LoopState) :
    (recvLoop c fuel s).1 <+: (refOf c s).1 ∧
    (∀ e, (recvLoop c fuel s).2 = .stopped e →
      recvLoop c fuel s = ((refOf c s).1, .stopped (refOf c s).2)) ∧
    (mu s.r + (refOf c s).1.length < fuel → (recvLoop c fuel s).2 ≠ .waiting) := by
  induction fuel generalizing s with
  | zero => simp [recvLoop]
  | succ fuel ih =>
    have hi := iter_spec c s
    unfold recvLoop
    generalize iter c s = it at hi ⊢
    cases it with
    | emit m s' =>
      obtain ⟨a1, a2, a3⟩ := hi
      have e : refOf c s = (m :: (refOf c s').1, (refOf c s').2) := by
        rw [refOf, parseFrom_eq, a2, refOf, a1]; rfl
      obtain ⟨b1, b2, b3⟩ := ih s'
      rw [e]
      refine ⟨by simpa using b1, fun e2 he => ?_, fun hf => b3 (by simp at hf; omega)⟩
      simp only [b2 e2 he]
    | cont s' =>
      obtain ⟨a1, a2⟩ := hi
      have e : refOf c s = refOf c s' := by rw [refOf, refOf, parseFrom_eq, parseFrom_eq, a1]
      obtain ⟨b1, b2, b3⟩ := ih s'
      rw [e]
      exact ⟨b1, b2, fun hf => b3 (by omega)⟩
    | stop e =>
      have e2 : refOf c s = ([], e) := by rw [refOf, parseFrom_eq, hi]
      simp [e2]

theorem loop_complete (c : Cfg Msg) (stream : Bytes) (sched : List Nat) (fuel : Nat)
    (hf : sched.length + stream.length + (parseAll (toWire c) stream).1.length < fuel) :
    recvLoop c fuel (LoopState.init stream sched) =
      ((parseAll (toWire c) stream).1, .stopped (parseAll (toWire c) stream).2) := by
  obtain ⟨_, h2, h3⟩ := loop_spec c fuel (LoopState.init stream sched)
  rw [refOf_init] at h2 h3
  cases hfin : (recvLoop c fuel (LoopState.init stream sched)).2 with
  | waiting => exact absurd hfin (h3 (by simpa [mu, LoopState.init, Rd.new] using hf))
  | stopped e => exact h2 e hfin

open CG.Spec.Reassembly (Frame expected streamOf StrictFramePrefix)

theorem parseHeader_mk (a b c d : Bytes) (ha : a.length = 4) (hb : b.length = 12)
    (hc : c.length = 4) (hd : d.length = 4) :
    parseHeader (a ++ b ++ c ++ d) = ⟨a, b, leToNat c, d⟩ := by
  simp [parseHeader, List.take_left', List.drop_left', List.take_of_length_le, ha, hb, hc, hd]

theorem frame_step {w : Wire Msg} (hw : w.WF) {f : Frame} (hv : f.Valid w) (Y : Bytes) :
    ∃ m, f.msg? w = some m ∧ step w (f.bytes w ++ Y) = .msg m Y := by
  obtain ⟨m, hm⟩ := Option.isSome_iff_exists.mp hv.decodes
  refine ⟨m, hm, ?_⟩
  have hck : ((w.H f.payload).take 4).length = 4 := by
    have := hw.hashLen f.payload
    simp [List.length_take]
    omega
  have hp :
      (w.magic ++ f.cmd ++ natToLEn 4 f.payload.length ++ (w.H f.payload).take 4).length = 24 := by
    simp [hw.magicLen, hv.cmdLen, hck]
  have e : f.bytes w ++ Y =
      (w.magic ++ f.cmd ++ natToLEn 4 f.payload.length ++ (w.H f.payload).take 4) ++ (f.payload ++ Y) := by
    simp [Frame.bytes]
  have hsz : leToNat (natToLEn 4 f.payload.length) = f.payload.length := by
    rw [leToNat_natToLEn]; exact Nat.mod_eq_of_lt hv.size32
  have hs : ¬ (f.cmd ≠ w.blockCmd ∧ f.payload.length > w.maxPayload) := by
    intro ⟨h1, h2⟩
    rcases hv.sizeOk with h | h
    · exact h1 h
    · omega
  rw [e, step_header w _ _ hp, parseHeader_mk _ _ _ _ hw.magicLen hv.cmdLen (by simp) hck, hsz,
    if_neg (by simp), if_neg hs]
  unfold stepBody
  unfold Frame.msg? at hm
  -- the body is `f.payload ++ Y`: never too short (`hl`), and cut at the end of the payload
  have hl (a b : Nat) : ¬ a + b < a := by omega
  cases hk : w.kind f.cmd with
  | payload =>
    simp only [hk] at hm ⊢
    cases hd : w.decode f.cmd f.payload <;> simp [hd] at hm ⊢
    simp [hl, hm]
  | bare =>
    simp only [hk] at hm ⊢
    obtain rfl := Option.some.inj hm
    simp [hv.bareEmpty hk]
  | other =>
    simp only [hk] at hm ⊢
    obtain rfl := Option.some.inj hm
    cases f.payload <;> simp [hl]

theorem stepBody_strict_prefix (w : Wire Msg) (cmd : Bytes) (size : Nat) (ck : Bytes) (Y rest : Bytes)
    (m : Msg)
    (h : stepBody w cmd size ck (Y ++ rest) = .msg m []) (hr : rest ≠ []) :
    stepBody w cmd size ck Y = .stop CG.Spec.Reassembly.DISCONNECTED := by
  have hrl : 0 < rest.length := List.length_pos_iff.mpr hr
  rcases CG.Spec.Reassembly.stepBody_msg h with e | ⟨e, hs⟩
  · simp [hr] at e
  · -- the whole input is consumed, so the announced payload is longer than `Y`
    have := congrArg List.length e
    simp at this
    exact hs Y (by omega)

theorem step_strict_prefix (w : Wire Msg) (t rest : Bytes) (m : Msg)
    (h : step w (t ++ rest) = .msg m []) (hr : rest ≠ []) :
    step w t = .stop CG.Spec.Reassembly.DISCONNECTED := by
  by_cases hl : t.length < 24
  · exact step_short w t hl
  · have hp : (t.take 24).length = 24 := by simp; omega
    rw [← List.take_append_drop 24 t, List.append_assoc, step_header w _ _ hp] at h
    rw [← List.take_append_drop 24 t, step_header w _ _ hp]
    split at h
    · simp at h
    · split at h
      · simp at h
      · rw [if_neg ‹_›, if_neg ‹_›]
        exact stepBody_strict_prefix w _ _ _ _ rest m h hr

theorem prefix_step {w : Wire Msg} (hw : w.WF) {tail : Bytes} (ht : StrictFramePrefix w tail) :
    step w tail = .stop CG.Spec.Reassembly.DISCONNECTED := by
  rcases ht with rfl | ⟨f, rest, hv, hr, hb⟩
  · exact step_short w [] (by simp)
  · obtain ⟨m, _, hs⟩ := frame_step hw hv []
    rw [List.append_nil, ← hb] at hs
    exact step_strict_prefix w tail rest m hs hr

theorem parseAll_stop {w : Wire Msg} {Y : Bytes} {e} (h : step w Y = .stop e) :
    parseAll w Y = ([], e) := by
  rw [parseAll_eq, h]

theorem parseAll_flatMap {ι : Type} (w : Wire Msg) (bytes : ι → Bytes) (val : ι → Option Msg)
    (xs : List ι)
    (hs : ∀ x ∈ xs, ∀ Y, ∃ m, val x = some m ∧ step w (bytes x ++ Y) = .msg m Y) (Y : Bytes) :
    parseAll w (xs.flatMap bytes ++ Y) = (xs.filterMap val ++ (parseAll w Y).1, (parseAll w Y).2) := by
  induction xs with
  | nil => rfl
  | cons x xs ih =>
    obtain ⟨m, hm, hx⟩ := hs x (by simp) (xs.flatMap bytes ++ Y)
    rw [List.flatMap_cons, List.append_assoc, parseAll_eq, hx]
    simp only
    rw [ih (fun y hy => hs y (by simp [hy]))]
    simp [hm]

theorem parseAll_frames {w : Wire Msg} (hw : w.WF) (frames : List Frame)
    (hv : ∀ f ∈ frames, CG.Spec.Reassembly.Frame.Valid w f) (Y : Bytes) :
    parseAll w (streamOf w frames ++ Y) = (expected w frames ++ (parseAll w Y).1, (parseAll w Y).2) :=
  parseAll_flatMap w (Frame.bytes w) (Frame.msg? w) frames (fun f hf Y => frame_step hw (hv f hf) Y) Y

theorem parseAll_frames_prefix {w : Wire Msg} (hw : w.WF) (frames : List Frame)
    (hv : ∀ f ∈ frames, CG.Spec.Reassembly.Frame.Valid w f) {tail : Bytes}
    (ht : StrictFramePrefix w tail) :
    parseAll w (streamOf w frames ++ tail) = (expected w frames, CG.Spec.Reassembly.DISCONNECTED) := by
  rw [parseAll_frames hw frames hv tail, parseAll_stop (prefix_step hw ht), List.append_nil]

theorem expected_length {w : Wire Msg} (frames : List Frame)
    (hv : ∀ f ∈ frames, CG.Spec.Reassembly.Frame.Valid w f) :
    (expected w frames : List Msg).length = frames.length := by
  induction frames with
  | nil => simp [expected]
  | cons f fs ih =>
    obtain ⟨m, hm⟩ := Option.isSome_iff_exists.mp (hv f (by simp)).decodes
    have ih' := ih (fun g hg => hv g (by simp [hg]))
    simp only [expected] at ih' ⊢
    rw [List.filterMap_cons, hm, List.length_cons, List.length_cons, ih']

end CG.Proofs.Framing
