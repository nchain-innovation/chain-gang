import CG.Model.Sighash
import CG.Spec.LegacySighash
import CG.Base.Lemmas
/-! Helper lemmas for C02: the sub-script selection of `extract_subscript` against the specification. -/
namespace CG.Proofs.Subscript
open CG CG.Model.Sighash
open CG.Spec.Bip143 (Op parse parseScript flatten selectFrom scriptCodeOps bodyLen)

/-- the model's `next_op` and the specification's operation format cut the same number of bytes -/
theorem opLen_eq (b : UInt8) (r : Bytes) : opLen (b :: r) = 1 + min (bodyLen b r) r.length := by
  unfold opLen bodyLen
  simp only [List.length_cons]
  by_cases h1 : 1 ≤ b.toNat ∧ b.toNat ≤ 75
  · rw [if_pos h1, if_pos h1]
    dsimp only
    split <;> omega
  rw [if_neg h1, if_neg h1]
  by_cases h2 : b.toNat = 76
  · rw [if_pos h2, if_pos h2]
    rcases r with _ | ⟨l0, t⟩
    · rfl
    · simp only [List.length_cons, List.take_succ_cons, List.take_zero, leToNat,
        if_neg (Nat.not_lt.mpr (Nat.le_add_left 1 _))]
      split <;> omega
  rw [if_neg h2, if_neg h2]
  by_cases h3 : b.toNat = 77
  · rw [if_pos h3, if_pos h3]
    rcases r with _ | ⟨l0, _ | ⟨l1, t⟩⟩
    · rfl
    · rfl
    · simp only [List.length_cons, List.take_succ_cons, List.take_zero, leToNat,
        if_neg (Nat.not_lt.mpr (Nat.le_add_left 2 _))]
      split <;> omega
  rw [if_neg h3, if_neg h3]
  by_cases h4 : b.toNat = 78
  · rw [if_pos h4, if_pos h4]
    rcases r with _ | ⟨l0, _ | ⟨l1, _ | ⟨l2, _ | ⟨l3, t⟩⟩⟩⟩
    · rfl
    · rfl
    · rfl
    · rfl
    · simp only [List.length_cons, List.take_succ_cons, List.take_zero, leToNat,
        if_neg (Nat.not_lt.mpr (Nat.le_add_left 4 _))]
      split <;> omega
  rw [if_neg h4, if_neg h4]
  dsimp only
  split <;> omega

def notSep (o : Op) : Bool := !o.isSep

/-- `l` is a list of operations as a parser cuts them: each body is exactly what the format assigns to
    its opcode given the bytes that follow -/
def Wf : List Op → Prop
  | [] => True
  | op :: t => op.body.length = min (bodyLen op.code (op.body ++ flatten t)) (op.body ++ flatten t).length ∧ Wf t

theorem flatten_cons (op : Op) (t : List Op) : flatten (op :: t) = op.code :: (op.body ++ flatten t) := by
  simp [flatten, Op.bytes]

theorem flatten_append (a b : List Op) : flatten (a ++ b) = flatten a ++ flatten b := by
  simp [flatten]

theorem parse_spec : ∀ (fuel : Nat) (code : Bytes), code.length ≤ fuel →
    flatten (parse fuel code) = code ∧ Wf (parse fuel code) := by
  intro fuel
  induction fuel with
  | zero =>
    intro code h
    have : code = [] := List.eq_nil_of_length_eq_zero (by omega)
    subst this
    simp [parse, flatten, Wf]
  | succ fuel ih =>
    intro code h
    cases code with
    | nil => simp [parse, flatten, Wf]
    | cons b r =>
      simp only [parse]
      have hlen : (r.drop (min (bodyLen b r) r.length)).length ≤ fuel := by
        simp only [List.length_drop]
        simp only [List.length_cons] at h
        omega
      obtain ⟨h1, h2⟩ := ih _ hlen
      constructor
      · rw [flatten_cons, h1]
        simp
      · simp only [Wf, h1, List.take_append_drop, List.length_take]
        refine ⟨?_, h2⟩
        omega

theorem wf_suffix : ∀ (a b : List Op), Wf (a ++ b) → Wf b := by
  intro a
  induction a with
  | nil =>
    intro b h
    exact h
  | cons op t ih =>
    intro b h
    exact ih b h.2

theorem length_le_flatten : ∀ l : List Op, l.length ≤ (flatten l).length := by
  intro l
  induction l with
  | nil => simp [flatten]
  | cons op t ih =>
    rw [flatten_cons]
    simp only [List.length_cons, List.length_append]
    omega

theorem removeSeps_flatten : ∀ (l : List Op) (fuel : Nat), Wf l → l.length ≤ fuel →
    removeSeps fuel (flatten l) = flatten (l.filter notSep) := by
  intro l
  induction l with
  | nil =>
    intro fuel _ _
    cases fuel <;> simp [removeSeps, flatten]
  | cons op t ih =>
    intro fuel hw hf
    cases fuel with
    | zero => simp at hf
    | succ fuel =>
      obtain ⟨hb, hwt⟩ := hw
      rw [flatten_cons]
      simp only [removeSeps]
      rw [opLen_eq, ← hb, Nat.add_comm 1, List.take_succ_cons, List.drop_succ_cons, List.take_left, List.drop_left,
        ih fuel hwt (by simpa using hf)]
      by_cases hs : op.code = OP_CODESEPARATOR
      · have : notSep op = false := by simp [notSep, Op.isSep, hs, OP_CODESEPARATOR]
        simp [hs, this]
      · have : notSep op = true := by
          simp only [notSep, Op.isSep, Bool.not_eq_true', decide_eq_false_iff_not]
          exact hs
        simp [hs, this, flatten_cons]

theorem removeSeps_drop (a b : List Op) (hw : Wf (a ++ b)) :
    removeSeps (flatten (a ++ b)).length ((flatten (a ++ b)).drop (flatten a).length)
      = flatten (b.filter notSep) := by
  rw [flatten_append, List.drop_left]
  refine removeSeps_flatten b _ (wf_suffix a b hw) ?_
  have := length_le_flatten b
  simp only [List.length_append]
  omega

/-- offsets (from `off`) of the operations whose opcode is `x` -/
def offsets (x : UInt8) : Nat → List Op → List Nat
  | _, [] => []
  | off, op :: t => (if op.code = x then [off] else []) ++ offsets x (off + 1 + op.body.length) t

theorem findAllFrom_append (x : UInt8) : ∀ (a b : Bytes) (off : Nat),
    findAllFrom x off (a ++ b) = findAllFrom x off a ++ findAllFrom x (off + a.length) b := by
  intro a
  induction a with
  | nil =>
    intro b off
    simp [findAllFrom]
  | cons y t ih =>
    intro b off
    simp only [List.cons_append, findAllFrom, List.length_cons]
    rw [ih b (off + 1)]
    have : off + 1 + t.length = off + (t.length + 1) := by omega
    rw [this]
    split <;> simp

theorem findAllFrom_none (x : UInt8) : ∀ (a : Bytes) (off : Nat), (∀ y ∈ a, y ≠ x) → findAllFrom x off a = [] := by
  intro a
  induction a with
  | nil =>
    intro off _
    rfl
  | cons y t ih =>
    intro off h
    have hy : y ≠ x := h y (by simp)
    simp only [findAllFrom, hy, if_false]
    exact ih (off + 1) (fun z hz => h z (by simp [hz]))

def NoRaw (x : UInt8) (l : List Op) : Prop := ∀ op ∈ l, ∀ y ∈ op.body, y ≠ x

theorem findAllFrom_flatten (x : UInt8) : ∀ (l : List Op) (off : Nat), NoRaw x l →
    findAllFrom x off (flatten l) = offsets x off l := by
  intro l
  induction l with
  | nil =>
    intro off _
    simp [flatten, findAllFrom, offsets]
  | cons op t ih =>
    intro off h
    rw [flatten_cons]
    simp only [findAllFrom, offsets]
    rw [findAllFrom_append, findAllFrom_none x op.body (off + 1) (h op (by simp)),
      ih (off + 1 + op.body.length) (fun o ho => h o (by simp [ho]))]
    split <;> simp

theorem offsets_append (x : UInt8) : ∀ (a b : List Op) (off : Nat),
    offsets x off (a ++ b) = offsets x off a ++ offsets x (off + (flatten a).length) b := by
  intro a
  induction a with
  | nil =>
    intro b off
    simp [offsets, flatten]
  | cons op t ih =>
    intro b off
    simp only [List.cons_append, offsets, ih, flatten_cons, List.length_cons, List.length_append,
      List.append_assoc]
    congr 3
    omega

theorem offsets_bounds (x : UInt8) : ∀ (l : List Op) (off : Nat), ∀ p ∈ offsets x off l,
    off ≤ p ∧ p < off + (flatten l).length := by
  intro l
  induction l with
  | nil =>
    intro off p h
    simp [offsets] at h
  | cons op t ih =>
    intro off p h
    simp only [offsets, List.mem_append] at h
    rw [flatten_cons]
    simp only [List.length_cons, List.length_append]
    rcases h with h | h
    · split at h
      · have hp : p = off := by simpa using h
        omega
      · simp at h
    · have := ih _ p h
      omega

theorem offsets_filter_lt (x : UInt8) (a b : List Op) :
    (offsets x 0 (a ++ b)).filter (· < (flatten a).length) = offsets x 0 a := by
  rw [offsets_append, List.filter_append, List.filter_eq_self.mpr, List.filter_eq_nil_iff.mpr, List.append_nil]
  · intro p hp
    have := offsets_bounds x b _ p hp
    rw [decide_eq_true_eq]
    omega
  · intro p hp
    have := offsets_bounds x a 0 p hp
    rw [decide_eq_true_eq]
    omega

theorem offsets_length (x : UInt8) : ∀ (l : List Op) (off : Nat),
    (offsets x off l).length = (l.filter (fun o => o.code = x)).length := by
  intro l
  induction l with
  | nil =>
    intro off
    rfl
  | cons op t ih =>
    intro off
    simp only [offsets, List.length_append, ih, List.filter_cons]
    by_cases h : op.code = x
    · simp only [h, if_true, decide_true, List.length_cons, List.length_nil]
      omega
    · simp [h]

theorem offsets_nil_of (x : UInt8) (l : List Op) (off : Nat) (h : ∀ op ∈ l, op.code ≠ x) : offsets x off l = [] := by
  rw [← List.length_eq_zero_iff, offsets_length, List.length_eq_zero_iff, List.filter_eq_nil_iff]
  simpa using h

theorem contains_iff_findAll (x : UInt8) : ∀ (a : Bytes) (off : Nat),
    a.contains x = true ↔ findAllFrom x off a ≠ [] := by
  intro a
  induction a with
  | nil =>
    intro off
    simp [findAllFrom]
  | cons y t ih =>
    intro off
    simp only [List.contains_cons, Bool.or_eq_true, beq_iff_eq, findAllFrom]
    by_cases h : y = x
    · simp [h]
    · have h' : ¬ x = y := fun e => h e.symm
      simp only [h', false_or, h, if_false]
      exact ih (off + 1)

/-! `Op.isSep o` / `Op.isCheck o` unfold to `decide (o.code = x)` for the model's opcode constants, so
lemmas about `fun o => o.code = x` apply to them as they stand (`offsets_sep_nil`, `length_offsets_sep`,
`length_offsets_check`). -/

theorem isSep_iff (o : Op) : o.isSep = true ↔ o.code = OP_CODESEPARATOR := decide_eq_true_iff
theorem isCheck_iff (o : Op) : o.isCheck = true ↔ o.code = OP_CHECKSIG := decide_eq_true_iff
theorem not_check_of_sep {o : Op} (h : o.isSep = true) : o.isCheck = false := by
  rw [Bool.eq_false_iff, Ne, isCheck_iff, (isSep_iff o).mp h]
  decide

theorem selectFrom_some : ∀ (rest cur : List Op) (k : Nat) (sel : List Op),
    selectFrom cur rest k = some sel →
    ∃ pre chk post, rest = pre ++ chk :: post ∧ chk.isCheck = true ∧
      (pre.filter Op.isCheck).length = k ∧
      (((∀ o ∈ pre, o.isSep = false) ∧ sel = cur) ∨
       (∃ p1 sep p2, pre = p1 ++ sep :: p2 ∧ sep.isSep = true ∧ (∀ o ∈ p2, o.isSep = false) ∧
          sel = p2 ++ chk :: post)) := by
  intro rest
  induction rest with
  | nil =>
    intro cur k sel h
    simp [selectFrom] at h
  | cons op rest ih =>
    intro cur k sel h
    unfold selectFrom at h
    cases hs : op.isSep with
    | true =>
      simp only [hs, if_true] at h
      obtain ⟨pre, chk, post, e, hc, hk, halt⟩ := ih rest k sel h
      refine ⟨op :: pre, chk, post, by rw [e]; rfl, hc, by simpa [not_check_of_sep hs] using hk, Or.inr ?_⟩
      rcases halt with ⟨hfree, hsel⟩ | ⟨p1, sep, p2, e2, hsep, hfree, hsel⟩
      · exact ⟨[], op, pre, rfl, hs, hfree, by rw [hsel, e]⟩
      · exact ⟨op :: p1, sep, p2, by rw [e2]; rfl, hsep, hfree, hsel⟩
    | false =>
      simp only [hs, Bool.false_eq_true, if_false] at h
      -- unless `op` is the selected check, the selection goes on in `rest` under the same `cur`,
      -- for the check numbered `k'`
      have hgo : (op.isCheck = true ∧ k = 0 ∧ sel = cur) ∨
          ∃ k', (if op.isCheck = true then k' + 1 else k') = k ∧ selectFrom cur rest k' = some sel := by
        cases hc : op.isCheck with
        | false => exact Or.inr ⟨k, by simp, by simpa [hc] using h⟩
        | true =>
          cases k with
          | zero => exact Or.inl ⟨rfl, rfl, by simpa [hc] using h.symm⟩
          | succ k => exact Or.inr ⟨k, by simp, by simpa [hc] using h⟩
      rcases hgo with ⟨hc, rfl, rfl⟩ | ⟨k', hk', h'⟩
      · exact ⟨[], op, rest, rfl, hc, rfl, Or.inl ⟨nofun, rfl⟩⟩
      · obtain ⟨pre, chk, post, e, hcc, hk, halt⟩ := ih cur k' sel h'
        refine ⟨op :: pre, chk, post, by rw [e]; rfl, hcc, ?_, ?_⟩
        · rw [← hk', ← hk, List.filter_cons]
          split <;> simp
        · rcases halt with ⟨hfree, hsel⟩ | ⟨p1, sep, p2, e2, hsep, hfree, hsel⟩
          · exact Or.inl ⟨List.forall_mem_cons.mpr ⟨hs, hfree⟩, hsel⟩
          · exact Or.inr ⟨op :: p1, sep, p2, by rw [e2]; rfl, hsep, hfree, hsel⟩

theorem selectFrom_none : ∀ (rest cur : List Op) (k : Nat), selectFrom cur rest k = none →
    (rest.filter Op.isCheck).length ≤ k := by
  intro rest
  induction rest with
  | nil =>
    intro cur k _
    simp
  | cons op rest ih =>
    intro cur k h
    unfold selectFrom at h
    cases hs : op.isSep with
    | true =>
      simp only [hs, if_true] at h
      simpa [List.filter_cons, not_check_of_sep hs] using ih rest k h
    | false =>
      simp only [hs, Bool.false_eq_true, if_false] at h
      cases hc : op.isCheck with
      | false => simpa [List.filter_cons, hc] using ih cur k (by simpa [hc] using h)
      | true =>
        cases k with
        | zero => simp [hc] at h
        | succ k =>
          have := ih cur k (by simpa [hc] using h)
          simp [hc]
          omega

theorem offsets_sep_nil {l : List Op} (h : ∀ o ∈ l, o.isSep = false) (off : Nat) :
    offsets OP_CODESEPARATOR off l = [] :=
  offsets_nil_of _ l off fun o ho => of_decide_eq_false (h o ho)

theorem length_offsets_sep (l : List Op) (off : Nat) :
    (offsets OP_CODESEPARATOR off l).length = (l.filter Op.isSep).length :=
  offsets_length _ l off

theorem length_offsets_check (l : List Op) (off : Nat) :
    (offsets OP_CHECKSIG off l).length = (l.filter Op.isCheck).length :=
  offsets_length _ l off

theorem filter_notSep_of_free (l : List Op) (h : ∀ o ∈ l, o.isSep = false) : l.filter notSep = l := by
  apply List.filter_eq_self.mpr
  intro o ho
  simp [notSep, h o ho]

theorem filter_length_pos {l : List Op} {p : Op → Bool} (h : ¬ l.all (fun o => !p o) = true) :
    0 < (l.filter p).length := by
  rw [List.all_eq_true] at h
  apply Nat.pos_of_ne_zero
  intro h0
  exact h fun o ho => by simpa using List.filter_eq_nil_iff.mp (List.eq_nil_of_length_eq_zero h0) o ho

theorem contains_sep {l : List Op} (h : NoRaw OP_CODESEPARATOR l) :
    (flatten l).contains OP_CODESEPARATOR = !l.all (fun o => !o.isSep) := by
  -- the byte occurs iff the scan's list of offsets is non-empty, and that list is as long as the separator filter
  rw [Bool.eq_iff_iff, contains_iff_findAll _ _ 0, findAllFrom_flatten _ l 0 h, Ne, ← List.length_eq_zero_iff,
    length_offsets_sep, List.length_eq_zero_iff, List.filter_eq_nil_iff]
  simp

theorem parseScript_spec (code : Bytes) : flatten (parseScript code) = code ∧ Wf (parseScript code) :=
  parse_spec code.length code (Nat.le_refl _)

theorem scan_ops {code : Bytes} {ops : List Op} (hfl : flatten ops = code)
    (hab : NoRaw OP_CODESEPARATOR ops) (hac : NoRaw OP_CHECKSIG ops) :
    findAll code OP_CODESEPARATOR = offsets OP_CODESEPARATOR 0 ops ∧
    findAll code OP_CHECKSIG = offsets OP_CHECKSIG 0 ops ∧
    code.contains OP_CODESEPARATOR = !ops.all (fun o => !o.isSep) := by
  subst hfl
  exact ⟨findAllFrom_flatten _ ops 0 hab, findAllFrom_flatten _ ops 0 hac, contains_sep hab⟩

theorem extract_unfold (code : Bytes) (k : Nat) (hc : code.contains OP_CODESEPARATOR = true)
    (hk : ¬ ((findAll code OP_CHECKSIG).length ≠ 0 ∧ k > (findAll code OP_CHECKSIG).length - 1)) :
    extractSubscript code k = .ok (removeSeps code.length (code.drop
      (if (findAll code OP_CODESEPARATOR).length < 2 then 0
       else (((findAll code OP_CODESEPARATOR).filter (· < (findAll code OP_CHECKSIG).getD k 0)).getLast?).getD 0))) := by
  unfold extractSubscript
  simp only [hc, not_true_eq_false, if_false, hk]

theorem extract_noSep (code : Bytes) (k : Nat) (hc : code.contains OP_CODESEPARATOR = false) :
    extractSubscript code k = .ok code := by
  unfold extractSubscript
  simp only [hc, Bool.false_eq_true, not_false_eq_true, if_true]

/-- no separator offset below the selected check's: the copy loop runs over the whole script -/
theorem extract_whole (code : Bytes) (k : Nat) (hc : code.contains OP_CODESEPARATOR = true)
    (hk : ¬ ((findAll code OP_CHECKSIG).length ≠ 0 ∧ k > (findAll code OP_CHECKSIG).length - 1))
    (hf : (findAll code OP_CODESEPARATOR).filter (· < (findAll code OP_CHECKSIG).getD k 0) = []) :
    extractSubscript code k = .ok (removeSeps code.length code) := by
  rw [extract_unfold code k hc hk, hf]
  simp only [List.getLast?_nil, Option.getD_none, ite_self, List.drop_zero]

/-- **Partial correctness of the sub-script selection.**  If no operation body contains the byte
    values 0xab / 0xac, and a script with exactly one separator has it as its first operation or is
    selected whole, then `extract_subscript` returns the specification's script code with the
    remaining separators removed. -/
theorem extractSubscript_eq_spec (code : Bytes) (k : Nat) (sel : List Op)
    (hsel : scriptCodeOps code k = some sel)
    (hab : NoRaw OP_CODESEPARATOR (parseScript code)) (hac : NoRaw OP_CHECKSIG (parseScript code))
    (hsingle : ((parseScript code).filter Op.isSep).length = 1 →
      (∃ s t, parseScript code = s :: t ∧ s.isSep = true) ∨ sel = parseScript code) :
    extractSubscript code k = .ok (flatten (sel.filter notSep)) := by
  obtain ⟨hfl, hwf⟩ := parseScript_spec code
  unfold scriptCodeOps at hsel
  generalize parseScript code = ops at hfl hwf hab hac hsingle hsel
  subst hfl
  obtain ⟨hsepsAll, hchecksAll, hcont⟩ := scan_ops rfl hab hac
  have hremove_all : removeSeps (flatten ops).length (flatten ops) = flatten (ops.filter notSep) :=
    removeSeps_drop [] ops hwf
  simp only at hsel
  by_cases hall : ops.all (fun o => !o.isSep) = true
  · -- no separator operation: the whole script
    simp only [hall, Bool.true_or, if_true, Option.some.injEq] at hsel
    subst hsel
    rw [hall] at hcont
    rw [extract_noSep _ k hcont,
      filter_notSep_of_free ops fun o ho => by simpa using List.all_eq_true.mp hall o ho]
  have hcontains : (flatten ops).contains OP_CODESEPARATOR = true := by simpa [hall] using hcont
  by_cases hnochk : ops.all (fun o => !o.isCheck) = true
  · -- separators but no OP_CHECKSIG operation: the whole script, separators removed by the copy loop
    simp only [hnochk, Bool.or_true, if_true, Option.some.injEq] at hsel
    subst hsel
    have hchknil : findAll (flatten ops) OP_CHECKSIG = [] := by
      rw [hchecksAll]
      exact offsets_nil_of _ ops 0 fun o ho =>
        of_decide_eq_false (by simpa using List.all_eq_true.mp hnochk o ho : o.isCheck = false)
    rw [extract_whole _ k hcontains (by rw [hchknil]; simp) (by rw [hchknil]; simp), hremove_all]
  · simp only [hall, hnochk, Bool.or_self, Bool.false_eq_true, if_false] at hsel
    obtain ⟨pre, chk, post, e, hchk, hk, halt⟩ := selectFrom_some ops ops k sel hsel
    have hchkcode : chk.code = OP_CHECKSIG := (isCheck_iff chk).mp hchk
    have hchknotsep : ¬ chk.code = OP_CODESEPARATOR := by rw [hchkcode]; decide
    -- the `k`-th check found by the scan is `chk`, at offset `(flatten pre).length`
    have hchecks : findAll (flatten ops) OP_CHECKSIG = offsets OP_CHECKSIG 0 pre ++
        ((flatten pre).length :: offsets OP_CHECKSIG ((flatten pre).length + 1 + chk.body.length) post) := by
      rw [hchecksAll, e, offsets_append]
      simp [offsets, hchkcode]
    have hprelen : (offsets OP_CHECKSIG 0 pre).length = k := by
      rw [length_offsets_check]
      exact hk
    have hcpos : (findAll (flatten ops) OP_CHECKSIG).getD k 0 = (flatten pre).length := by
      rw [hchecks, ← hprelen]
      exact getD_append_right _ _ _ 0
    have hkle : ¬ ((findAll (flatten ops) OP_CHECKSIG).length ≠ 0 ∧
        k > (findAll (flatten ops) OP_CHECKSIG).length - 1) := by
      rw [hchecks]
      simp only [List.length_append, List.length_cons, hprelen]
      omega
    -- the separators found before it are those of `pre`
    have hfilter : (findAll (flatten ops) OP_CODESEPARATOR).filter (· < (flatten pre).length)
        = offsets OP_CODESEPARATOR 0 pre := by
      rw [hsepsAll, e, offsets_filter_lt]
    rcases halt with ⟨hfree, hselcur⟩ | ⟨p1, sep, p2, epre, hsep, hfree, hselp⟩
    · -- no separator before the check
      rw [extract_whole _ k hcontains hkle (by rw [hcpos, hfilter, offsets_sep_nil hfree]), hremove_all, hselcur]
    · -- a separator before the check
      rw [extract_unfold _ k hcontains hkle, hcpos, hfilter]
      have hsepcode : sep.code = OP_CODESEPARATOR := (isSep_iff sep).mp hsep
      have hpreoff : offsets OP_CODESEPARATOR 0 pre = offsets OP_CODESEPARATOR 0 p1 ++ [(flatten p1).length] := by
        rw [epre, offsets_append]
        simp [offsets, hsepcode, offsets_sep_nil hfree]
      rw [hpreoff]
      simp only [List.getLast?_append, List.getLast?_singleton, Option.some_or, Option.getD_some]
      have eops : ops = p1 ++ sep :: sel := by rw [e, epre, hselp]; simp
      have hsepfilter : (sep :: sel).filter notSep = sel.filter notSep := by
        simp [notSep, hsep]
      by_cases h2 : (findAll (flatten ops) OP_CODESEPARATOR).length < 2
      · -- exactly one separator: it must be the first operation
        simp only [h2, if_true, List.drop_zero]
        have hone : (ops.filter Op.isSep).length = 1 := by
          have hge : 1 ≤ (ops.filter Op.isSep).length :=
            List.length_pos_of_mem (List.mem_filter.mpr ⟨by rw [eops]; simp, hsep⟩)
          rw [hsepsAll, length_offsets_sep] at h2
          omega
        rcases hsingle hone with ⟨s, t, est, hs⟩ | hselops
        · have hp1 : p1 = [] := by
            cases p1 with
            | nil => rfl
            | cons a p1' =>
              rw [eops] at est hone
              rw [(List.cons.inj est).1] at hone
              simp [hs, hsep] at hone
          rw [hremove_all, eops, hp1, List.nil_append, hsepfilter]
        · exfalso
          have := congrArg List.length eops
          rw [hselops] at this
          simp only [List.length_append, List.length_cons] at this
          omega
      · simp only [h2, if_false]
        have := removeSeps_drop p1 (sep :: sel) (eops ▸ hwf)
        rw [← eops] at this
        rw [this, hsepfilter]

/-- when the specification has no script code (separators and checks exist but there is no `k`-th
    check) the model returns `BadArgument` -/
theorem extractSubscript_none (code : Bytes) (k : Nat) (hsel : scriptCodeOps code k = none)
    (hab : NoRaw OP_CODESEPARATOR (parseScript code)) (hac : NoRaw OP_CHECKSIG (parseScript code)) :
    extractSubscript code k = .err "BadArgument" := by
  obtain ⟨hfl, -⟩ := parseScript_spec code
  unfold scriptCodeOps at hsel
  generalize parseScript code = ops at hfl hab hac hsel
  obtain ⟨-, hchecksAll, hcont⟩ := scan_ops hfl hab hac
  simp only at hsel
  by_cases hall : ops.all (fun o => !o.isSep) = true
  · simp [hall] at hsel
  by_cases hnochk : ops.all (fun o => !o.isCheck) = true
  · simp [hnochk] at hsel
  · simp only [hall, hnochk, Bool.or_self, Bool.false_eq_true, if_false] at hsel
    have hlen : (findAll code OP_CHECKSIG).length = (ops.filter Op.isCheck).length := by
      rw [hchecksAll, length_offsets_check]
    have hcount := selectFrom_none ops ops k hsel
    have hpos := filter_length_pos hnochk
    have hcontains : code.contains OP_CODESEPARATOR = true := by simpa [hall] using hcont
    unfold extractSubscript
    have hne : (findAll code OP_CHECKSIG).length ≠ 0 := by omega
    have hgt : k > (findAll code OP_CHECKSIG).length - 1 := by omega
    simp only [hcontains, not_true_eq_false, if_false, ne_eq, hne, not_false_eq_true, hgt, and_self, if_true]

end CG.Proofs.Subscript
