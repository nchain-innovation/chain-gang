import CG.Model.Der
import CG.Spec.Der
import CG.Model.ScriptNum
import CG.Base.Lemmas
/-!
Helper lemmas for the signature-form part of C03: the DER framing of `generate_signature` has the
shape `30 L 02 |R| R 02 |S| S` with `R`, `S` minimal positive big-endian integers, and that shape
passes BIP-66's checks.
-/
namespace CG.Proofs.Der
open CG CG.Model.Der CG.Spec.Der

/-- BIP-66's sign-bit test on a byte, as a bound on its value -/
theorem and80 (b : UInt8) : b &&& 0x80 = 0 ↔ b.toNat < 128 := by
  have h : (b &&& 0x80 != 0) = decide (128 ≤ b.toNat) := Model.ScriptNum.signSet_iff b
  rw [← Nat.not_le, ← decide_eq_true_iff (p := 128 ≤ b.toNat), ← h]
  simp

theorem beToNat_cons_zero (b : Bytes) : beToNat (0 :: b) = beToNat b := by
  simp [beToNat, leToNat_append, leToNat]

theorem beToNat_single (y : UInt8) : beToNat [y] = y.toNat := by simp [beToNat, leToNat]

theorem beToNat_strip (b : Bytes) : beToNat (stripLeadingZeroes b) = beToNat b := by
  induction b with
  | nil => rfl
  | cons x xs ih =>
    unfold stripLeadingZeroes
    split
    · rename_i h; rw [ih, h.1, beToNat_cons_zero]
    · rfl

theorem beToNat_be32 (x : Nat) : beToNat (be32 x) = x % 256 ^ 32 := by
  simp [beToNat, be32, leToNat_natToLEn]

theorem be32_length (x : Nat) : (be32 x).length = 32 := by simp [be32]

theorem strip_cases (b : Bytes) (hb : b ≠ []) :
    ∃ y rest, stripLeadingZeroes b = y :: rest ∧ (rest ≠ [] → y ≠ 0) ∧ rest.length < b.length := by
  induction b with
  | nil => exact absurd rfl hb
  | cons x xs ih =>
    unfold stripLeadingZeroes
    split
    · rename_i h
      obtain ⟨y, rest, h1, h2, h3⟩ := ih h.2
      exact ⟨y, rest, h1, h2, by simp; omega⟩
    · rename_i h
      refine ⟨x, xs, rfl, ?_, by simp⟩
      intro hne hx
      exact h ⟨hx, hne⟩

/-- content octets of a positive, minimally encoded ASN.1 INTEGER of at most 33 bytes with value `x` -/
structure GoodInt (v : Bytes) (x : Nat) : Prop where
  len1 : 1 ≤ v.length
  len33 : v.length ≤ 33
  pos : (v.getD 0 0).toNat < 128
  minimal : 1 < v.length → v.getD 0 0 = 0 → 128 ≤ (v.getD 1 0).toNat
  value : beToNat v = x

theorem uintContent_good (x : Nat) (h0 : 0 < x) (h1 : x < 2 ^ 256) : GoodInt (uintContent (be32 x)) x := by
  have hne : be32 x ≠ [] := by
    intro h; have := be32_length x; rw [h] at this; simp at this
  obtain ⟨y, rest, hs, hy, hl⟩ := strip_cases (be32 x) hne
  have hv : beToNat (y :: rest) = x := by
    rw [← hs, beToNat_strip, beToNat_be32]
    exact Nat.mod_eq_of_lt (by rw [show (256 : Nat) ^ 32 = 2 ^ 256 by decide]; exact h1)
  have hy0 : y ≠ 0 := by
    by_cases hr : rest = []
    · subst hr
      rw [beToNat_single] at hv
      intro hy'; subst hy'; simp at hv; omega
    · exact hy hr
  have hyn : y.toNat ≠ 0 := fun h => hy0 (UInt8.toNat_inj.mp h)
  rw [be32_length] at hl
  unfold uintContent
  simp only [hs, needsLeadingZero]
  by_cases hb : y.toNat ≥ 128
  · simp only [hb, decide_true, if_true]
    exact ⟨by simp, by simp; omega, by simp, by intro _ _; simpa using hb,
      by rw [beToNat_cons_zero, hv]⟩
  · simp only [hb, decide_false, Bool.false_eq_true, if_false]
    refine ⟨by simp, by simp; omega, by simp; omega, ?_, hv⟩
    intro _ h; simp at h; exact absurd h hy0

def frame (R S tail : Bytes) : Bytes :=
  [0x30, UInt8.ofNat (R.length + S.length + 4), 0x02, UInt8.ofNat R.length]
    ++ (R ++ ([0x02, UInt8.ofNat S.length] ++ (S ++ tail)))

theorem derLength_small {l : Nat} (h : l < 128) : derLength l = [UInt8.ofNat l] := by
  simp [derLength, h]

/-- `R` and `S` enter through equations: callers pass `rfl rfl` and go on with the short names -/
theorem derEncode_eq_frame (r s : Nat) {R S : Bytes} (hR : R = uintContent (be32 r))
    (hS : S = uintContent (be32 s)) (h1 : R.length ≤ 33) (h2 : S.length ≤ 33) :
    derEncode r s = frame R S [] := by
  unfold derEncode derEncodeBytes derUint
  simp only [← hR, ← hS]
  rw [derLength_small (show R.length < 128 by omega), derLength_small (show S.length < 128 by omega)]
  have hl : (0x02 :: [UInt8.ofNat R.length] ++ R ++ (0x02 :: [UInt8.ofNat S.length] ++ S)).length
      = R.length + S.length + 4 := by simp; omega
  rw [hl, derLength_small (by omega)]
  simp [frame]

section frame
variable (R S tail : Bytes)

theorem frame_length : (frame R S tail).length = R.length + S.length + tail.length + 6 := by
  simp [frame]; omega

theorem frame_at0 : at_ (frame R S tail) 0 = 0x30 := rfl
theorem frame_at1 : at_ (frame R S tail) 1 = UInt8.ofNat (R.length + S.length + 4) := rfl
theorem frame_at2 : at_ (frame R S tail) 2 = 0x02 := rfl
theorem frame_at3 : at_ (frame R S tail) 3 = UInt8.ofNat R.length := rfl

theorem frame_atR (k : Nat) (hk : k < R.length) : at_ (frame R S tail) (4 + k) = R.getD k 0 :=
  (getD_append_right [_, _, _, _] _ 0 k).trans (getD_append_left R _ 0 hk)

/-- the bytes behind `R`: `k = 0` the second INTEGER tag, `k = 1` the length of `S`, from `k = 2` on `S` -/
theorem frame_atB (k : Nat) :
    at_ (frame R S tail) (4 + (R.length + k)) = ([0x02, UInt8.ofNat S.length] ++ (S ++ tail)).getD k 0 :=
  (getD_append_right [_, _, _, _] _ 0 _).trans (getD_append_right R _ 0 k)

theorem frame_atB0 : at_ (frame R S tail) (R.length + 4) = 0x02 := by
  rw [show R.length + 4 = 4 + (R.length + 0) by omega, frame_atB]
  rfl

theorem frame_atB1 : at_ (frame R S tail) (5 + R.length) = UInt8.ofNat S.length := by
  rw [show 5 + R.length = 4 + (R.length + 1) by omega, frame_atB]
  rfl

theorem frame_atS (k : Nat) (hk : k < S.length) :
    at_ (frame R S tail) (R.length + (6 + k)) = S.getD k 0 := by
  rw [show R.length + (6 + k) = 4 + (R.length + (2 + k)) by omega, frame_atB]
  exact (getD_append_right [_, _] _ 0 k).trans (getD_append_left S _ 0 hk)

theorem frame_takeR : ((frame R S tail).drop 4).take R.length = R := by
  unfold frame
  rw [List.drop_left' (by rfl), List.take_left' rfl]

theorem frame_takeS : ((frame R S tail).drop (6 + R.length)).take S.length = S := by
  have : frame R S tail = ([0x30, UInt8.ofNat (R.length + S.length + 4), 0x02, UInt8.ofNat R.length]
      ++ R ++ [0x02, UInt8.ofNat S.length]) ++ (S ++ tail) := by simp [frame]
  rw [this, List.drop_left' (by simp; omega), List.take_left' rfl]

end frame

/-- BIP-66's checks on a signature that carries `k` bytes behind its DER part: `k = 0` is `strictDerB` (bare
    DER), `k = 1` is `isValidSignatureEncoding` (DER and the hash-type byte).  Both hold by `rfl` below, the
    sums `8 + k`, `72 + k`, … reducing to the literals of `Spec/Der.lean`. -/
def derChecks (k : Nat) (sig : Bytes) : Bool :=
  if sig.length < 8 + k then false
  else if sig.length > 72 + k then false
  else if at_ sig 0 ≠ 0x30 then false
  else if (at_ sig 1).toNat ≠ sig.length - (2 + k) then false
  else
    let lenR := (at_ sig 3).toNat
    if 5 + lenR ≥ sig.length then false
    else
      let lenS := (at_ sig (5 + lenR)).toNat
      if lenR + lenS + (6 + k) ≠ sig.length then false
      else if at_ sig 2 ≠ 0x02 then false
      else if lenR = 0 then false
      else if at_ sig 4 &&& 0x80 ≠ 0 then false
      else if lenR > 1 ∧ at_ sig 4 = 0x00 ∧ at_ sig 5 &&& 0x80 = 0 then false
      else if at_ sig (lenR + 4) ≠ 0x02 then false
      else if lenS = 0 then false
      else if at_ sig (lenR + 6) &&& 0x80 ≠ 0 then false
      else if lenS > 1 ∧ at_ sig (lenR + 6) = 0x00 ∧ at_ sig (lenR + 7) &&& 0x80 = 0 then false
      else true

theorem strictDerB_eq (der : Bytes) : strictDerB der = derChecks 0 der := rfl
theorem isValidSignatureEncoding_eq (sig : Bytes) : isValidSignatureEncoding sig = derChecks 1 sig := rfl

section strict
variable {R S : Bytes} {r s : Nat} (hR : GoodInt R r) (hS : GoodInt S s) (tail : Bytes)
include hR hS

theorem frame_facts :
    (at_ (frame R S tail) 1).toNat = R.length + S.length + 4 ∧
    (at_ (frame R S tail) 3).toNat = R.length ∧
    (at_ (frame R S tail) (5 + R.length)).toNat = S.length ∧
    ¬ (at_ (frame R S tail) 4 &&& 0x80 ≠ 0) ∧
    ¬ (R.length > 1 ∧ at_ (frame R S tail) 4 = 0x00 ∧ at_ (frame R S tail) 5 &&& 0x80 = 0) ∧
    ¬ (at_ (frame R S tail) (R.length + 6) &&& 0x80 ≠ 0) ∧
    ¬ (S.length > 1 ∧ at_ (frame R S tail) (R.length + 6) = 0x00 ∧
        at_ (frame R S tail) (R.length + 7) &&& 0x80 = 0) := by
  have r1 := hR.len1; have r2 := hR.len33; have s1 := hS.len1; have s2 := hS.len33
  have a4 : at_ (frame R S tail) 4 = R.getD 0 0 := frame_atR R S tail 0 (by omega)
  have a6 : at_ (frame R S tail) (R.length + 6) = S.getD 0 0 := frame_atS R S tail 0 (by omega)
  refine ⟨by rw [frame_at1, toNat_ofNat_lt (by omega)], by rw [frame_at3, toNat_ofNat_lt (by omega)],
    by rw [frame_atB1, toNat_ofNat_lt (by omega)], ?_, ?_, ?_, ?_⟩
  · rw [a4]; simp only [ne_eq, Decidable.not_not]; exact (and80 _).mpr hR.pos
  · rintro ⟨h1, h2, h3⟩
    have a5 : at_ (frame R S tail) 5 = R.getD 1 0 := frame_atR R S tail 1 (by omega)
    rw [a4] at h2
    rw [a5, and80] at h3
    have := hR.minimal (by omega) h2
    omega
  · rw [a6]; simp only [ne_eq, Decidable.not_not]; exact (and80 _).mpr hS.pos
  · rintro ⟨h1, h2, h3⟩
    have a7 : at_ (frame R S tail) (R.length + 7) = S.getD 1 0 := frame_atS R S tail 1 (by omega)
    rw [a6] at h2
    rw [a7, and80] at h3
    have := hS.minimal (by omega) h2
    omega

theorem frame_checks : derChecks tail.length (frame R S tail) = true := by
  obtain ⟨n1, n3, nB, pR, cR, pS, cS⟩ := frame_facts hR hS tail
  have r1 := hR.len1; have r2 := hR.len33; have s1 := hS.len1; have s2 := hS.len33
  have len := frame_length R S tail
  unfold derChecks
  simp only [n1, n3, nB, len]
  rw [if_neg (by omega), if_neg (by omega), if_neg (by rw [frame_at0]; simp), if_neg (by omega),
    if_neg (by omega), if_neg (by omega), if_neg (by rw [frame_at2]; simp), if_neg (by omega),
    if_neg pR, if_neg cR, if_neg (by rw [frame_atB0]; simp), if_neg (by omega), if_neg pS, if_neg cS]

theorem frame_strict : strictDerB (frame R S []) = true :=
  (strictDerB_eq _).trans (frame_checks hR hS [])

theorem frame_bip66 (t : UInt8) : isValidSignatureEncoding (frame R S [t]) = true :=
  (isValidSignatureEncoding_eq _).trans (frame_checks hR hS [t])

theorem frame_decode : derDecode (frame R S []) = some (r, s) := by
  obtain ⟨n1, n3, nB, -⟩ := frame_facts hR hS []
  unfold derDecode
  rw [frame_strict hR hS, if_pos rfl]
  simp only [n3, nB, frame_takeR, frame_takeS, hR.value, hS.value]

end strict

theorem frame_append (R S tail : Bytes) : frame R S tail = frame R S [] ++ tail := by simp [frame]

end CG.Proofs.Der
