import CG.Proofs.Wordlists
import CG.Generated.Wordlists.Korean
/-! Kernel evaluation of the word-list checker on the generated `korean` list. -/
namespace CG.Proofs.Wordlists
open CG.Generated.Wordlists

theorem korean_ok :
    keysOk [koreanKeys0, koreanKeys1, koreanKeys2, koreanKeys3, koreanKeys4, koreanKeys5,
      koreanKeys6, koreanKeys7, koreanKeys8, koreanKeys9, koreanKeys10, koreanKeys11,
      koreanKeys12, koreanKeys13, koreanKeys14, koreanKeys15] = true := by
  decide +kernel

end CG.Proofs.Wordlists
