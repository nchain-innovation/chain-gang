import CG.Proofs.Wordlists
import CG.Generated.Wordlists.Italian
/-! Kernel evaluation of the word-list checker on the generated `italian` list. -/
namespace CG.Proofs.Wordlists
open CG.Generated.Wordlists

theorem italian_ok :
    keysOk [italianKeys0, italianKeys1, italianKeys2, italianKeys3, italianKeys4, italianKeys5,
      italianKeys6, italianKeys7, italianKeys8, italianKeys9, italianKeys10, italianKeys11,
      italianKeys12, italianKeys13, italianKeys14, italianKeys15] = true := by
  decide +kernel

end CG.Proofs.Wordlists
