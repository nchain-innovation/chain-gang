import CG.Proofs.Wordlists
import CG.Generated.Wordlists.ChineseSimplified
/-! Kernel evaluation of the word-list checker on the generated `chineseSimplified` list. -/
namespace CG.Proofs.Wordlists
open CG.Generated.Wordlists

theorem chineseSimplified_ok :
    keysOk [chineseSimplifiedKeys0, chineseSimplifiedKeys1, chineseSimplifiedKeys2, chineseSimplifiedKeys3, chineseSimplifiedKeys4, chineseSimplifiedKeys5,
      chineseSimplifiedKeys6, chineseSimplifiedKeys7, chineseSimplifiedKeys8, chineseSimplifiedKeys9, chineseSimplifiedKeys10, chineseSimplifiedKeys11,
      chineseSimplifiedKeys12, chineseSimplifiedKeys13, chineseSimplifiedKeys14, chineseSimplifiedKeys15] = true := by
  decide +kernel

end CG.Proofs.Wordlists
