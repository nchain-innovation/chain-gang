import CG.Proofs.Wordlists
import CG.Generated.Wordlists.ChineseTraditional
/-! Kernel evaluation of the word-list checker on the generated `chineseTraditional` list. -/
namespace CG.Proofs.Wordlists
open CG.Generated.Wordlists

theorem chineseTraditional_ok :
    keysOk [chineseTraditionalKeys0, chineseTraditionalKeys1, chineseTraditionalKeys2, chineseTraditionalKeys3, chineseTraditionalKeys4, chineseTraditionalKeys5,
      chineseTraditionalKeys6, chineseTraditionalKeys7, chineseTraditionalKeys8, chineseTraditionalKeys9, chineseTraditionalKeys10, chineseTraditionalKeys11,
      chineseTraditionalKeys12, chineseTraditionalKeys13, chineseTraditionalKeys14, chineseTraditionalKeys15] = true := by
  decide +kernel

end CG.Proofs.Wordlists
