import CG.Proofs.Wordlists
import CG.Generated.Wordlists.English
/-! Kernel evaluation of the word-list checker on the generated `english` list. -/
namespace CG.Proofs.Wordlists
open CG.Generated.Wordlists

theorem english_ok :
    keysOk [englishKeys0, englishKeys1, englishKeys2, englishKeys3, englishKeys4, englishKeys5,
      englishKeys6, englishKeys7, englishKeys8, englishKeys9, englishKeys10, englishKeys11,
      englishKeys12, englishKeys13, englishKeys14, englishKeys15] = true := by
  decide +kernel

end CG.Proofs.Wordlists
