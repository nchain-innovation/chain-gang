import CG.Proofs.Wordlists
import CG.Generated.Wordlists.Spanish
/-! Kernel evaluation of the word-list checker on the generated `spanish` list. -/
namespace CG.Proofs.Wordlists
open CG.Generated.Wordlists

theorem spanish_ok :
    keysOk [spanishKeys0, spanishKeys1, spanishKeys2, spanishKeys3, spanishKeys4, spanishKeys5,
      spanishKeys6, spanishKeys7, spanishKeys8, spanishKeys9, spanishKeys10, spanishKeys11,
      spanishKeys12, spanishKeys13, spanishKeys14, spanishKeys15] = true := by
  decide +kernel

end CG.Proofs.Wordlists
