import CG.Proofs.Wordlists
import CG.Generated.Wordlists.French
/-! Kernel evaluation of the word-list checker on the generated `french` list. -/
namespace CG.Proofs.Wordlists
open CG.Generated.Wordlists

theorem french_ok :
    keysOk [frenchKeys0, frenchKeys1, frenchKeys2, frenchKeys3, frenchKeys4, frenchKeys5,
      frenchKeys6, frenchKeys7, frenchKeys8, frenchKeys9, frenchKeys10, frenchKeys11,
      frenchKeys12, frenchKeys13, frenchKeys14, frenchKeys15] = true := by
  decide +kernel

end CG.Proofs.Wordlists
