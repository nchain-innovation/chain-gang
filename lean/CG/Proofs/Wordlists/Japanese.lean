import CG.Proofs.Wordlists
import CG.Generated.Wordlists.Japanese
/-! Kernel evaluation of the word-list checker on the generated `japanese` list. -/
namespace CG.Proofs.Wordlists
open CG.Generated.Wordlists

theorem japanese_ok :
    keysOk [japaneseKeys0, japaneseKeys1, japaneseKeys2, japaneseKeys3, japaneseKeys4, japaneseKeys5,
      japaneseKeys6, japaneseKeys7, japaneseKeys8, japaneseKeys9, japaneseKeys10, japaneseKeys11,
      japaneseKeys12, japaneseKeys13, japaneseKeys14, japaneseKeys15] = true := by
  decide +kernel

end CG.Proofs.Wordlists
