import CG.Model.Bits
import CG.Model.Mnemonic
import CG.Spec.Bip39
/-!
Helper lemmas for C10: bit strings, the abstraction function `toBits` of the byte-packed `Bits`,
`from_slice` / `append` / `extract` against bit lists, the encode and decode loops.
-/
namespace CG.Proofs.Mnemonic
open CG CG.Model.Bits CG.Model.Mnemonic CG.Spec.Bip39

@[simp] theorem natToBits_length (w n : Nat) : (natToBits w n).length = w := by
  induction w with
  | zero => rfl
  | succ w ih => simp [natToBits, ih]

theorem bitsToNat_lt (l : List Bool) : bitsToNat l < 2 ^ l.length := by
  induction l with
  | nil => simp [bitsToNat]
  | cons b r ih =>
    simp only [bitsToNat, List.length_cons, Nat.pow_succ]
    cases b <;> simp <;> omega

theorem bitsToNat_append (a b : List Bool) :
    bitsToNat (a ++ b) = bitsToNat a * 2 ^ b.length + bitsToNat b := by
  induction a with
  | nil => simp [bitsToNat]
  | cons x r ih =>
    simp only [List.cons_append, bitsToNat, ih, List.length_append, Nat.pow_add, Nat.add_mul]
    rw [Nat.mul_assoc, Nat.add_assoc]

theorem bitsToNat_natToBits (w n : Nat) : bitsToNat (natToBits w n) = n % 2 ^ w := by
  induction w with
  | zero => simp [natToBits, bitsToNat, Nat.mod_one]
  | succ w ih =>
    simp only [natToBits, bitsToNat, natToBits_length, ih, Nat.toNat_testBit]
    rw [Nat.mod_pow_succ, Nat.mul_comm]
    omega

theorem natToBits_mod (w k n : Nat) (h : w ≤ k) : natToBits w (n % 2 ^ k) = natToBits w n := by
  induction w with
  | zero => rfl
  | succ w ih =>
    simp only [natToBits, Nat.testBit_mod_two_pow]
    rw [ih (by omega)]
    have : w < k := by omega
    simp [this]

theorem natToBits_bitsToNat (l : List Bool) : natToBits l.length (bitsToNat l) = l := by
  induction l with
  | nil => rfl
  | cons b r ih =>
    have hlt := bitsToNat_lt r
    simp only [List.length_cons, natToBits, bitsToNat]
    congr 1
    · rw [Nat.testBit_eq_decide_div_mod_eq, Nat.mul_comm, Nat.mul_add_div (Nat.two_pow_pos _),
        Nat.div_eq_of_lt hlt]
      cases b <;> simp
    · rw [← natToBits_mod _ r.length _ (Nat.le_refl _), Nat.mul_comm, Nat.mul_add_mod,
        Nat.mod_eq_of_lt hlt, ih]

theorem bitsToNat_injective {a b : List Bool} (hl : a.length = b.length)
    (h : bitsToNat a = bitsToNat b) : a = b := by
  rw [← natToBits_bitsToNat a, ← natToBits_bitsToNat b, hl, h]

theorem bitsToNat_mod_inj {a b : List Bool} (hl : a.length = b.length) (h64 : b.length ≤ 64) :
    bitsToNat a % 2 ^ 64 = bitsToNat b % 2 ^ 64 ↔ a = b := by
  have hp : (2 : Nat) ^ b.length ≤ 2 ^ 64 := Nat.pow_le_pow_right (by omega) h64
  rw [Nat.mod_eq_of_lt (Nat.lt_of_lt_of_le (hl ▸ bitsToNat_lt a) hp),
    Nat.mod_eq_of_lt (Nat.lt_of_lt_of_le (bitsToNat_lt b) hp)]
  exact ⟨bitsToNat_injective hl, fun h => h ▸ rfl⟩

@[simp] theorem byteBits_length (x : UInt8) : (byteBits x).length = 8 := by simp [byteBits]

@[simp] theorem bytesToBits_nil : bytesToBits [] = [] := rfl

@[simp] theorem bytesToBits_cons (x : UInt8) (r : Bytes) :
    bytesToBits (x :: r) = byteBits x ++ bytesToBits r := by simp [bytesToBits]

@[simp] theorem bytesToBits_append (a b : Bytes) :
    bytesToBits (a ++ b) = bytesToBits a ++ bytesToBits b := by simp [bytesToBits]

@[simp] theorem bytesToBits_length (b : Bytes) : (bytesToBits b).length = 8 * b.length := by
  induction b with
  | nil => rfl
  | cons x r ih =>
    simp [ih]
    omega

theorem bytesToBits_take (n : Nat) (b : Bytes) :
    bytesToBits (b.take n) = (bytesToBits b).take (8 * n) := by
  induction b generalizing n with
  | nil => simp
  | cons x r ih =>
    cases n with
    | zero => simp
    | succ n =>
      simp only [List.take_succ_cons, bytesToBits_cons, ih]
      rw [show 8 * (n + 1) = (byteBits x).length + 8 * n by simp; omega, List.take_length_add_append]

theorem natToBits_zero (w : Nat) : natToBits w 0 = List.replicate w false := by
  induction w with
  | zero => rfl
  | succ w ih => simp [natToBits, ih, List.replicate_succ]

theorem natToBits_add (a b n : Nat) :
    natToBits (a + b) n = natToBits a (n / 2 ^ b) ++ natToBits b n := by
  induction a with
  | zero => simp [natToBits]
  | succ a ih =>
    rw [show a + 1 + b = (a + b) + 1 by omega]
    simp only [natToBits, ih, List.cons_append, Nat.testBit_div_two_pow]

theorem natToBits_take (w r n : Nat) (h : r ≤ w) :
    (natToBits w n).take r = natToBits r (n / 2 ^ (w - r)) := by
  rw [show w = r + (w - r) by omega, natToBits_add, List.take_left' (by simp)]
  congr 3
  omega

theorem natToBits_drop (w r n : Nat) (h : r ≤ w) :
    (natToBits w n).drop r = natToBits (w - r) n := by
  conv => lhs; rw [show w = r + (w - r) by omega, natToBits_add]
  rw [List.drop_left' (by simp)]

theorem byteBits_ofNat (m : Nat) : byteBits (UInt8.ofNat m) = natToBits 8 m := by
  simp only [byteBits, UInt8.toNat_ofNat']
  exact natToBits_mod 8 8 m (Nat.le_refl _)

theorem byteBits_shr8 (x : UInt8) (k : Nat) (hk : k ≤ 8) :
    byteBits (shr8 x k) = List.replicate k false ++ (byteBits x).take (8 - k) := by
  have hx := x.toNat_lt
  have hlt : x.toNat / 2 ^ k < 2 ^ (8 - k) := by
    rw [Nat.div_lt_iff_lt_mul (Nat.two_pow_pos _), ← Nat.pow_add]
    rw [show 8 - k + k = 8 by omega]
    exact hx
  rw [shr8, byteBits_ofNat, byteBits, Nat.shiftRight_eq_div_pow]
  rw [natToBits_take 8 (8 - k) _ (by omega), show 8 - (8 - k) = k by omega]
  conv => lhs; rw [show 8 = k + (8 - k) by omega]
  rw [natToBits_add, Nat.div_eq_of_lt hlt, natToBits_zero]

theorem byteBits_shl8 (x : UInt8) (k : Nat) (hk : k ≤ 8) :
    byteBits (shl8 x k) = (byteBits x).drop k ++ List.replicate k false := by
  rw [shl8, byteBits_ofNat, byteBits, Nat.shiftLeft_eq]
  rw [show (256 : Nat) = 2 ^ 8 by rfl, natToBits_mod 8 8 _ (Nat.le_refl _), natToBits_drop 8 k _ hk]
  conv => lhs; rw [show 8 = (8 - k) + k by omega]
  rw [natToBits_add, Nat.mul_div_cancel _ (Nat.two_pow_pos _), ← natToBits_mod k k _ (Nat.le_refl _),
    Nat.mul_mod_left, natToBits_zero]

theorem natToBits_keepMask : ∀ r, r ≤ 8 →
    natToBits 8 (255 - (2 ^ (8 - r) - 1)) = List.replicate r true ++ List.replicate (8 - r) false := by
  decide +kernel

theorem zipWith_and_true (t : List Bool) :
    List.zipWith (· && ·) t (List.replicate t.length true) = t := by
  induction t <;> simp_all [List.replicate_succ]

theorem zipWith_and_false (t : List Bool) :
    List.zipWith (· && ·) t (List.replicate t.length false) = List.replicate t.length false := by
  induction t <;> simp_all [List.replicate_succ]

theorem byteBits_and (x y : UInt8) :
    byteBits (x &&& y) = List.zipWith (· && ·) (byteBits x) (byteBits y) := by
  simp [byteBits, natToBits, Nat.testBit_and, UInt8.toNat_and]

theorem byteBits_keepTop (x : UInt8) (r : Nat) (hr : r ≤ 8) :
    byteBits (keepTop x r) = (byteBits x).take r ++ List.replicate (8 - r) false := by
  rw [keepTop, byteBits_and, byteBits_ofNat, natToBits_keepMask r hr]
  conv => lhs; rw [← List.take_append_drop r (byteBits x)]
  rw [List.zipWith_append (by simp; omega)]
  have h1 : ((byteBits x).take r).length = r := by simp; omega
  have h2 : ((byteBits x).drop r).length = 8 - r := by simp
  conv => lhs; arg 1; arg 3; rw [← h1]
  conv => lhs; arg 2; arg 3; rw [← h2]
  rw [zipWith_and_true, zipWith_and_false, h2]

theorem sub_bits (x : UInt8) (r l : Nat) (h : r + l ≤ 8) :
    (x.toNat >>> (8 - r - l)) &&& (2 ^ l - 1) = bitsToNat (((byteBits x).drop r).take l) := by
  rw [byteBits, natToBits_drop 8 r _ (by omega), natToBits_take (8 - r) l _ (by omega),
    bitsToNat_natToBits, Nat.and_two_pow_sub_one_eq_mod, Nat.shiftRight_eq_div_pow]

theorem byteBits_or (x y : UInt8) :
    byteBits (x ||| y) = List.zipWith (· || ·) (byteBits x) (byteBits y) := by
  simp [byteBits, natToBits, Nat.testBit_or, UInt8.toNat_or]

theorem zipWith_or_false_right (t : List Bool) :
    List.zipWith (· || ·) t (List.replicate t.length false) = t := by
  induction t <;> simp_all [List.replicate_succ]

theorem zipWith_or_false_left (u : List Bool) :
    List.zipWith (· || ·) (List.replicate u.length false) u = u := by
  induction u <;> simp_all [List.replicate_succ]

theorem zipWith_or_split (t u : List Bool) :
    List.zipWith (· || ·) (t ++ List.replicate u.length false) (List.replicate t.length false ++ u)
      = t ++ u := by
  rw [List.zipWith_append (by simp), zipWith_or_false_right, zipWith_or_false_left]

/-- the bit string a `Bits` value stands for -/
def toBits (b : Bits) : List Bool := (bytesToBits b.data).take b.len

/-- Well-formed: exactly the bytes needed for `len` bits, unused low bits of the last byte zero.
    (`from_slice` with a length that uses the last byte, and `append` of such values, keep it;
    `append` *requires* it of `self` — it ORs into the last byte.) -/
def WF (b : Bits) : Prop :=
  b.data.length = (b.len + 7) / 8 ∧
    bytesToBits b.data = toBits b ++ List.replicate (8 * b.data.length - b.len) false

theorem toBits_mk (d : Bytes) (n : Nat) : toBits ⟨d, n⟩ = (bytesToBits d).take n := rfl

theorem toBits_length (b : Bits) (h : b.len ≤ 8 * b.data.length) : (toBits b).length = b.len := by
  simp [toBits]
  omega

theorem WF.len_le {b : Bits} (h : WF b) : b.len ≤ 8 * b.data.length := by
  have := h.1; omega

theorem wf_new : WF Bits.new := by simp [WF, Bits.new, toBits]

@[simp] theorem toBits_new : toBits Bits.new = [] := by simp [Bits.new, toBits]

theorem modifyLast_append (f : UInt8 → UInt8) (init : Bytes) (x : UInt8) :
    modifyLast f (init ++ [x]) = init ++ [f x] := by
  induction init with
  | nil => rfl
  | cons a r ih =>
    cases r with
    | nil => simp [modifyLast]
    | cons b t =>
      simp only [List.cons_append, modifyLast] at ih ⊢
      rw [ih]

@[simp] theorem modifyLast_length (f : UInt8 → UInt8) (l : Bytes) : (modifyLast f l).length = l.length := by
  induction l with
  | nil => rfl
  | cons a r ih =>
    cases r with
    | nil => rfl
    | cons b t =>
      simp only [modifyLast, List.length_cons] at ih ⊢
      rw [ih]

theorem exists_snoc {l : Bytes} (h : l ≠ []) : ∃ init x, l = init ++ [x] :=
  ⟨_, _, (List.dropLast_concat_getLast h).symm⟩

theorem fromSlice_len (d : Bytes) (n : Nat) : (fromSlice d n).len = min (d.length * 8) n := by
  unfold fromSlice
  simp only
  split <;> rfl

theorem fromSlice_data_length (d : Bytes) (n : Nat) : (fromSlice d n).data.length = d.length := by
  unfold fromSlice
  simp only
  split <;> simp

theorem toBits_fromSlice (d : Bytes) (n : Nat) : toBits (fromSlice d n) = (bytesToBits d).take n := by
  have hmin : (bytesToBits d).take (min (d.length * 8) n) = (bytesToBits d).take n := by
    rw [List.take_eq_take_min (i := n), bytesToBits_length, Nat.min_comm, Nat.mul_comm]
  unfold fromSlice
  simp only
  split
  · rename_i hrem
    obtain ⟨init, x, rfl⟩ := exists_snoc (l := d) (by rintro rfl; simp at hrem)
    rw [← hmin]
    generalize hL : min ((init ++ [x]).length * 8) n = L at hrem ⊢
    have hP : L ≤ (bytesToBits init ++ (byteBits x).take (L % 8)).length := by
      have : (init ++ [x]).length = init.length + 1 := by simp
      simp
      omega
    -- both sides begin with the bits of `init` and the top `L % 8` bits of `x`; `L` ends within these
    simp only [toBits, modifyLast_append, bytesToBits_append, bytesToBits_cons, bytesToBits_nil,
      List.append_nil, byteBits_keepTop x (L % 8) (by omega)]
    rw [← List.append_assoc, List.take_append_of_le_length hP]
    conv => rhs; rw [← List.take_append_drop (L % 8) (byteBits x), ← List.append_assoc,
      List.take_append_of_le_length hP]
  · rw [← hmin]
    rfl

/-- `byte` has no bit set below its top `k` bits -/
def CleanByte (byte : UInt8) (k : Nat) : Prop :=
  (byteBits byte).drop k = List.replicate (8 - k) false

theorem cleanByte_eight (byte : UInt8) : CleanByte byte 8 := by simp [CleanByte]

theorem take_bits_split (d : Bytes) (q r : Nat) (b : UInt8) (hb : d[q]? = some b) (hr : r ≤ 8) :
    (bytesToBits d).take (8 * q + r) = bytesToBits (d.take q) ++ (byteBits b).take r := by
  obtain ⟨hlt, hbe⟩ := List.getElem?_eq_some_iff.mp hb
  have hd : d = d.take q ++ b :: d.drop (q + 1) := by
    rw [← hbe, ← List.drop_eq_getElem_cons hlt, List.take_append_drop]
  have hl : (bytesToBits (d.take q)).length = 8 * q := by simp; omega
  conv => lhs; rw [hd]
  rw [bytesToBits_append, bytesToBits_cons, ← hl, List.take_length_add_append,
    List.take_append_of_le_length (by simp; omega)]

theorem toBits_split (o : Bits) (b : UInt8) (hb : o.data[o.len / 8]? = some b) :
    toBits o = bytesToBits (o.data.take (o.len / 8)) ++ (byteBits b).take (o.len % 8) := by
  have := take_bits_split o.data (o.len / 8) (o.len % 8) b hb (by omega)
  rw [show 8 * (o.len / 8) + o.len % 8 = o.len by omega] at this
  exact this

theorem WF.clean_tail {o : Bits} (h : WF o) (b : UInt8) (hb : o.data[o.len / 8]? = some b) :
    CleanByte b (o.len % 8) := by
  obtain ⟨hlen, hbits⟩ := h
  obtain ⟨hlt, hbe⟩ := List.getElem?_eq_some_iff.mp hb
  have hd : o.data = o.data.take (o.len / 8) ++ [b] := by
    conv => lhs; rw [← List.take_append_drop (o.len / 8) o.data, List.drop_eq_getElem_cons hlt]
    rw [List.drop_of_length_le (by omega), hbe]
  rw [toBits_split o b hb] at hbits
  conv at hbits => lhs; rw [hd]
  simp only [bytesToBits_append, bytesToBits_cons, bytesToBits_nil, List.append_nil,
    List.append_assoc] at hbits
  have h2 := List.append_cancel_left hbits
  unfold CleanByte
  rw [h2, List.drop_left' (by simp; omega)]
  congr 1
  omega

theorem last_or (last byte : UInt8) (e : Nat) (he : e ≤ 8) (hc : CleanByte last e) :
    byteBits (last ||| shr8 byte e) = (byteBits last).take e ++ (byteBits byte).take (8 - e) := by
  have h := zipWith_or_split ((byteBits last).take e) ((byteBits byte).take (8 - e))
  rw [List.length_take, List.length_take, byteBits_length, byteBits_length, Nat.min_eq_left he,
    Nat.min_eq_left (Nat.sub_le 8 e), ← hc, List.take_append_drop] at h
  rw [byteBits_or, byteBits_shr8 byte e he]
  exact h

theorem take_byteBits_pad (byte : UInt8) (n : Nat) :
    (byteBits byte ++ List.replicate 8 false).take (8 + n) =
      byteBits byte ++ List.replicate (min n 8) false := by
  rw [show 8 + n = (byteBits byte).length + n by simp, List.take_length_add_append,
    List.take_replicate]

/-- The bytes after `append_byte`, as bits: those of `a`, then `byte` followed by zeros as far as
    the new bytes reach, `n < 8` bits beyond the `k` appended.  What the result stands for and its
    well-formedness are read off this. -/
theorem appendByte_data (a : Bits) (byte : UInt8) (k : Nat) (ha : WF a) (hk1 : 1 ≤ k) (hk : k ≤ 8) :
    ∃ r n, appendByte a byte k = .ok r ∧ r.len = a.len + k ∧ 8 * r.data.length = r.len + n ∧ n < 8 ∧
      bytesToBits r.data = toBits a ++ (byteBits byte ++ List.replicate 8 false).take (k + n) := by
  obtain ⟨hlen, hbits⟩ := ha
  unfold appendByte
  simp only
  by_cases he : a.len % 8 = 0
  · rw [if_pos he]
    have h8 : 8 * a.data.length = a.len := by omega
    clear hlen he
    have hA : bytesToBits a.data = toBits a := by
      rw [hbits, h8]
      simp
    refine ⟨_, 8 - k, rfl, rfl, by simp; omega, by omega, ?_⟩
    simp only [bytesToBits_append, bytesToBits_cons, bytesToBits_nil, List.append_nil, hA]
    rw [show k + (8 - k) = 8 + 0 by omega, take_byteBits_pad]
    simp
  · rw [if_neg he]
    have hne : a.data ≠ [] := by
      intro h
      rw [h] at hlen
      simp at hlen
      omega
    rw [if_neg hne]
    obtain ⟨init, last, hd⟩ := exists_snoc hne
    obtain ⟨hil, hq⟩ : a.len = 8 * init.length + a.len % 8 ∧ a.len / 8 = init.length := by
      rw [hd] at hlen
      simp at hlen
      omega
    have hb : a.data[a.len / 8]? = some last := by rw [hq, hd]; simp
    have hA := toBits_split a last hb
    rw [hq, hd, List.take_left' rfl] at hA
    have hor := last_or last byte _ (by omega) (WF.clean_tail ⟨hlen, hbits⟩ last hb)
    generalize a.len % 8 = e at he hil hA hor ⊢
    have he8 : e < 8 := by omega
    clear hlen hq hb
    simp only [hd, modifyLast_append]
    split
    · refine ⟨_, 8 + (8 - e) - k, rfl, rfl, by simp; omega, by omega, ?_⟩
      simp only [bytesToBits_append, bytesToBits_cons, bytesToBits_nil, List.append_nil, hor,
        byteBits_shl8 byte (8 - e) (Nat.sub_le 8 e)]
      rw [hA, show k + (8 + (8 - e) - k) = 8 + (8 - e) by omega, take_byteBits_pad,
        Nat.min_eq_left (Nat.sub_le 8 e)]
      simp only [List.append_assoc]
      rw [← List.append_assoc ((byteBits byte).take (8 - e)), List.take_append_drop]
    · refine ⟨_, 8 - e - k, rfl, rfl, by simp; omega, by omega, ?_⟩
      simp only [bytesToBits_append, bytesToBits_cons, bytesToBits_nil, List.append_nil, hor]
      rw [hA, show k + (8 - e - k) = 8 - e by omega, List.take_append_of_le_length (by simp),
        List.append_assoc]

theorem appendByte_spec (a : Bits) (byte : UInt8) (k : Nat) (ha : WF a) (hk1 : 1 ≤ k) (hk : k ≤ 8) :
    ∃ r, appendByte a byte k = .ok r ∧ r.len = a.len + k ∧
      toBits r = toBits a ++ (byteBits byte).take k ∧
      r.data.length = (r.len + 7) / 8 ∧ (CleanByte byte k → WF r) := by
  obtain ⟨r, n, h1, hl, hdn, hn8, hb⟩ := appendByte_data a byte k ha hk1 hk
  obtain ⟨hd, hpad⟩ : r.data.length = (r.len + 7) / 8 ∧ 8 * r.data.length - r.len = n := by omega
  have hAlen : (toBits a).length = a.len := toBits_length a ha.len_le
  have hkl : ((byteBits byte).take k).length = k := by simp; omega
  have hT : toBits r = toBits a ++ (byteBits byte).take k := by
    rw [toBits, hb, hl, ← hAlen, List.take_length_add_append, List.take_take,
      Nat.min_eq_left (Nat.le_add_right k n), List.take_append_of_le_length (by simp; omega)]
  refine ⟨r, h1, hl, hT, hd, fun hc => ⟨hd, ?_⟩⟩
  rw [hT, hb, hpad, List.append_assoc]
  congr 1
  conv => lhs; rw [← List.take_append_drop k (byteBits byte), hc]
  rw [List.append_assoc, List.replicate_append_replicate]
  rw [show k + n = ((byteBits byte).take k).length + n by rw [hkl], List.take_length_add_append,
    List.take_replicate, Nat.min_eq_left (Nat.le_trans (Nat.le_of_lt hn8) (Nat.le_add_left 8 (8 - k)))]

theorem appendFull_spec (other : Bits) (n i : Nat) (a : Bits) (ha : WF a)
    (hi : i + n ≤ other.data.length) :
    ∃ r, appendFull other n i a = .ok r ∧ WF r ∧ r.len = a.len + 8 * n ∧
      toBits r = toBits a ++ bytesToBits ((other.data.drop i).take n) := by
  induction n generalizing i a with
  | zero => exact ⟨a, rfl, ha, rfl, by simp⟩
  | succ n ih =>
    have hlt : i < other.data.length := by omega
    obtain ⟨r1, h1, hl1, ht1, _, hw1⟩ := appendByte_spec a other.data[i] 8 ha (by omega) (by omega)
    have hw1 := hw1 (cleanByte_eight _)
    obtain ⟨r, h2, hw2, hl2, ht2⟩ := ih (i + 1) r1 hw1 (by omega)
    refine ⟨r, ?_, hw2, by omega, ?_⟩
    · simp only [appendFull, List.getElem?_eq_getElem hlt, h1]
      exact h2
    · rw [ht2, ht1, List.drop_eq_getElem_cons hlt, List.take_succ_cons, bytesToBits_cons,
        List.take_of_length_le (by simp), List.append_assoc]

theorem append_spec (a o : Bits) (ha : WF a) (ho : o.len ≤ 8 * o.data.length) :
    ∃ r, append a o = .ok r ∧ r.len = a.len + o.len ∧ toBits r = toBits a ++ toBits o ∧
      r.data.length = (r.len + 7) / 8 ∧ (WF o → WF r) := by
  obtain ⟨s, hs, hws, hls, hts⟩ := appendFull_spec o (o.len / 8) 0 a ha (by omega)
  rw [List.drop_zero] at hts
  unfold append
  rw [hs]
  simp only
  by_cases hr : o.len % 8 = 0
  · rw [if_neg (fun h => h hr)]
    refine ⟨s, rfl, by omega, ?_, hws.1, fun _ => hws⟩
    rw [hts, bytesToBits_take, show 8 * (o.len / 8) = o.len by omega]
    rfl
  · rw [if_pos hr]
    obtain ⟨hlt, hr1, hr8⟩ : o.len / 8 < o.data.length ∧ 1 ≤ o.len % 8 ∧ o.len % 8 ≤ 8 := by omega
    have hb := List.getElem?_eq_getElem hlt
    obtain ⟨r, h1, hl1, ht1, hd1, hw1⟩ :=
      appendByte_spec s o.data[o.len / 8] (o.len % 8) hws hr1 hr8
    refine ⟨r, ?_, by omega, ?_, hd1, ?_⟩
    · simp only [hb]
      exact h1
    · rw [ht1, hts, toBits_split o _ hb, List.append_assoc]
    · intro hwo
      exact hw1 (hwo.clean_tail _ hb)

theorem bits_within_byte (d : Bytes) (q r l : Nat) (B : UInt8) (hB : d[q]? = some B)
    (hl : r + l ≤ 8) :
    ((bytesToBits d).drop (8 * q + r)).take l = ((byteBits B).drop r).take l := by
  obtain ⟨hlt, hbe⟩ := List.getElem?_eq_some_iff.mp hB
  have hd : d = d.take q ++ B :: d.drop (q + 1) := by
    rw [← hbe, ← List.drop_eq_getElem_cons hlt, List.take_append_drop]
  have hlen : (bytesToBits (d.take q)).length = 8 * q := by simp; omega
  conv => lhs; rw [hd]
  rw [bytesToBits_append, bytesToBits_cons, ← hlen, List.drop_length_add_append,
    List.drop_append_of_le_length (by simp; omega), List.take_append_of_le_length (by simp; omega)]

theorem extractByte_spec (b : Bits) (j r l : Nat) (hr : r < 8) (hl : r + l ≤ 8)
    (hnz : 1 ≤ l ∨ r ≠ 0) (hj : j < b.data.length) :
    ∃ v : UInt8, extractByte b (8 * j + r) l = .ok v ∧
      v.toNat = bitsToNat (((bytesToBits b.data).drop (8 * j + r)).take l) := by
  have hB := List.getElem?_eq_getElem hj
  have hq : (8 * j + r) / 8 = j := by omega
  have hm : (8 * j + r) % 8 = r := by omega
  refine ⟨UInt8.ofNat ((b.data[j].toNat >>> (8 - r - l)) &&& (2 ^ l - 1)), ?_, ?_⟩
  · unfold extractByte
    rw [hq, hm, hB]
    simp only
    rw [if_neg (by omega), if_neg (by omega)]
  · rw [bits_within_byte b.data j r l _ hB hl, ← sub_bits _ _ _ hl, UInt8.toNat_ofNat']
    apply Nat.mod_eq_of_lt
    rw [Nat.and_two_pow_sub_one_eq_mod]
    calc _ < 2 ^ l := Nat.mod_lt _ (Nat.two_pow_pos _)
      _ ≤ 2 ^ 8 := Nat.pow_le_pow_right (by omega) (by omega)

theorem or_shift_eq (curr bLen v : Nat) (hb : bLen ≤ 64) (hv : v < 2 ^ bLen) :
    ((curr <<< bLen) % 2 ^ 64 ||| v) % 2 ^ 64 = (curr * 2 ^ bLen + v) % 2 ^ 64 ∧
      ((curr <<< bLen) % 2 ^ 64 ||| v) < 2 ^ 64 := by
  have h64 : (2 : Nat) ^ 64 = 2 ^ (64 - bLen) * 2 ^ bLen := by
    rw [← Nat.pow_add]
    congr 1
    omega
  have hm : (curr <<< bLen) % 2 ^ 64 = (curr % 2 ^ (64 - bLen)) <<< bLen := by
    rw [Nat.shiftLeft_eq, Nat.shiftLeft_eq, h64, Nat.mul_mod_mul_right]
  have hor := Nat.shiftLeft_add_eq_or_of_lt hv (curr % 2 ^ (64 - bLen))
  constructor
  · rw [hm, ← hor, ← hm, Nat.shiftLeft_eq, Nat.mod_add_mod]
  · apply Nat.or_lt_two_pow (Nat.mod_lt _ (Nat.two_pow_pos _))
    calc v < 2 ^ bLen := hv
      _ ≤ 2 ^ 64 := Nat.pow_le_pow_right (by omega) hb

/-- The `extract` loop started at bit `r` of byte `j` with `rem` bits to go.  Positions are kept in
    the form `8 * j + r`, which keeps every bound linear. -/
theorem extractLoop_spec (b : Bits) :
    ∀ n j r rem curr, r < 8 → 8 * j + r + rem ≤ 8 * b.data.length → n = (r + rem + 7) / 8 →
      curr < 2 ^ 64 →
      extractLoop b (8 * j + r + rem) n j (8 * j + r) curr =
        .ok ((curr * 2 ^ rem +
          bitsToNat (((bytesToBits b.data).drop (8 * j + r)).take rem)) % 2 ^ 64) := by
  intro n
  induction n with
  | zero =>
    intro j r rem curr hr hend hn hc
    obtain rfl : rem = 0 := by omega
    simp [extractLoop, bitsToNat, Nat.mod_eq_of_lt hc]
  | succ n ih =>
    intro j r rem curr hr hend hn hc
    -- the arithmetic of one step: `bLen` bits come from byte `j`, `rem'` are left, and unless this is
    -- the last step the byte is used up
    generalize hbl : min rem (8 - r) = bLen
    obtain ⟨rem', rfl⟩ : ∃ rem', rem = bLen + rem' := ⟨rem - bLen, by omega⟩
    unfold extractLoop
    rw [if_neg (Nat.not_lt.mpr (Nat.le_add_right _ _)), Nat.mul_comm j 8,
      if_neg (Nat.not_lt.mpr (Nat.le_add_right _ _)), Nat.add_sub_cancel_left,
      Nat.add_sub_cancel_left, if_neg (Nat.not_lt.mpr (Nat.le_of_lt hr))]
    simp only [hbl]
    have hl : r + bLen ≤ 8 := by rw [← hbl]; omega
    have hm : rem' = 0 ∨ r + bLen = 8 := by omega
    clear hbl
    obtain ⟨hlast, hnext, hj, hnz⟩ : (n = 0 → rem' = 0) ∧
        (n ≠ 0 → r + bLen = 8 ∧ n = (0 + rem' + 7) / 8 ∧ 8 * (j + 1) + 0 + rem' ≤ 8 * b.data.length) ∧
        j < b.data.length ∧ (1 ≤ bLen ∨ r ≠ 0) := by omega
    have h64 : bLen ≤ 64 := Nat.le_trans (Nat.le_trans (Nat.le_add_left _ _) hl) (by decide)
    have hlen2 : (((bytesToBits b.data).drop (8 * j + r + bLen)).take rem').length = rem' := by
      rw [List.length_take, List.length_drop, bytesToBits_length]
      omega
    obtain ⟨v, hv, hvv⟩ := extractByte_spec b j r bLen hr hl hnz hj
    have hvlt : v.toNat < 2 ^ bLen := by
      rw [hvv]
      exact Nat.lt_of_lt_of_le (bitsToNat_lt _)
        (Nat.pow_le_pow_right (by decide) (List.length_take_le _ _))
    obtain ⟨hcm, hclt⟩ := or_shift_eq curr bLen v.toNat h64 hvlt
    simp only [hv]
    -- the bits [i, i+bLen+rem') are the bits [i, i+bLen), whose value is `v`, followed by the rest
    rw [List.take_add, bitsToNat_append, List.drop_drop, hlen2, ← hvv, Nat.pow_add,
      ← Nat.mul_assoc, ← Nat.add_assoc (curr * 2 ^ bLen * 2 ^ rem'), ← Nat.add_mul, Nat.add_mod,
      Nat.mul_mod, ← hcm, ← Nat.mul_mod, ← Nat.add_mod]
    cases n with
    | zero =>
      rw [hlast rfl]
      simp [extractLoop, bitsToNat, Nat.mod_eq_of_lt hclt]
    | succ m =>
      obtain ⟨h8, hm, hend'⟩ := hnext (Nat.succ_ne_zero m)
      rw [← Nat.add_assoc (8 * j + r), Nat.add_assoc (8 * j) r, h8]
      exact ih (j + 1) 0 rem' _ (by decide) hend' hm hclt

theorem extract_spec (b : Bits) (i len : Nat) (h : i + len ≤ 8 * b.data.length) :
    extract b i len = .ok (bitsToNat (((bytesToBits b.data).drop i).take len) % 2 ^ 64) := by
  have hi : 8 * (i / 8) + i % 8 = i := Nat.div_add_mod i 8
  have := extractLoop_spec b ((i + len + 7) / 8 - i / 8) (i / 8) (i % 8) len 0
    (Nat.mod_lt _ (by decide)) (by rw [hi]; exact h) (by omega) (Nat.two_pow_pos _)
  rw [hi] at this
  rw [extract, this]
  simp

theorem extract_toBits (b : Bits) (i len : Nat) (h : i + len ≤ b.len) (hb : b.len ≤ 8 * b.data.length) :
    extract b i len = .ok (bitsToNat (((toBits b).drop i).take len) % 2 ^ 64) := by
  rw [extract_spec b i len (by omega), toBits, List.drop_take, List.take_take,
    Nat.min_eq_left (by omega)]

theorem groups_nil (k f : Nat) : groups k f [] = [] := by
  cases f <;> simp [groups]

theorem groups_append (k f : Nat) (X Y : List Bool) (hX : X.length = k) (hk : 1 ≤ k) :
    groups k (f + 1) (X ++ Y) = X :: groups k f Y := by
  have hne : X ++ Y ≠ [] := by
    intro h
    rw [List.append_eq_nil_iff.mp h |>.1] at hX
    simp at hX
    omega
  simp [groups, hne, List.take_left' hX, List.drop_left' hX]

theorem groups_spec (k : Nat) (hk : 1 ≤ k) (n : Nat) : ∀ (f : Nat) (L : List Bool), L.length = k * n → n ≤ f →
    (groups k f L).length = n ∧ (∀ g ∈ groups k f L, g.length = k) ∧ (groups k f L).flatten = L := by
  induction n with
  | zero =>
    intro f L hL _
    obtain rfl : L = [] := List.eq_nil_of_length_eq_zero (by simpa using hL)
    simp [groups_nil]
  | succ n ih =>
    intro f L hL hf
    obtain ⟨f', rfl⟩ : ∃ f', f = f' + 1 := ⟨f - 1, by omega⟩
    rw [Nat.mul_succ] at hL
    have hX : (L.take k).length = k := by rw [List.length_take, hL]; omega
    obtain ⟨h1, h2, h3⟩ := ih f' (L.drop k) (by rw [List.length_drop, hL]; omega) (by omega)
    rw [← List.take_append_drop k L, groups_append k f' _ _ hX hk]
    exact ⟨by simp [h1], by simpa [hX] using h2, by simp [h3]⟩

theorem encLoop_spec (bits : Bits) (wl : List Bytes) (hwl : wl.length = 2048) :
    ∀ n i acc f, n ≤ f → 11 * (i + n) ≤ 8 * bits.data.length →
      encLoop bits wl n i acc = .ok (acc ++
        (groups 11 f (((bytesToBits bits.data).drop (11 * i)).take (11 * n))).map
          (fun g => wl.getD (bitsToNat g) [])) := by
  intro n
  induction n with
  | zero =>
    intro i acc f _ _
    simp [encLoop, groups_nil]
  | succ n ih =>
    intro i acc f hf hlen
    obtain ⟨f', rfl⟩ : ∃ f', f = f' + 1 := ⟨f - 1, by omega⟩
    obtain ⟨h1, h2, h3, h4⟩ : 11 * i + 11 ≤ 8 * bits.data.length ∧ n ≤ f' ∧
        11 * (i + 1 + n) ≤ 8 * bits.data.length ∧ 11 * (n + 1) = 11 + 11 * n := by omega
    have h11 : (((bytesToBits bits.data).drop (11 * i)).take 11).length = 11 := by
      rw [List.length_take, List.length_drop, bytesToBits_length]
      omega
    have hv : bitsToNat (((bytesToBits bits.data).drop (11 * i)).take 11) < wl.length := by
      have := bitsToNat_lt (((bytesToBits bits.data).drop (11 * i)).take 11)
      rw [h11] at this
      rw [hwl]
      exact this
    unfold encLoop
    rw [Nat.mul_comm i 11, extract_spec bits (11 * i) 11 h1,
      Nat.mod_eq_of_lt (Nat.lt_trans hv (by rw [hwl]; decide))]
    simp only [List.getElem?_eq_getElem hv]
    rw [ih (i + 1) _ f' h2 h3, h4, List.take_add, groups_append 11 f' _ _ h11 (by decide),
      List.drop_drop, Nat.mul_succ, List.map_cons, List.getD_eq_getElem?_getD,
      List.getElem?_eq_getElem hv]
    simp

theorem wf_fromSlice_full (e : Bytes) : WF (fromSlice e (e.length * 8)) ∧
    toBits (fromSlice e (e.length * 8)) = bytesToBits e ∧ (fromSlice e (e.length * 8)).len = 8 * e.length := by
  have hlen := fromSlice_len e (e.length * 8)
  rw [Nat.min_self] at hlen
  have hT := toBits_fromSlice e (e.length * 8)
  rw [List.take_of_length_le (by simp; omega)] at hT
  have hd : (fromSlice e (e.length * 8)).data = e := by
    unfold fromSlice
    simp
  refine ⟨⟨by rw [hd, hlen]; omega, ?_⟩, hT, by omega⟩
  rw [hT, hd, hlen, show 8 * e.length - e.length * 8 = 0 by omega]
  simp

theorem sentenceBits_length (H : Bytes → Bytes) (e : Bytes) (h4 : e.length % 4 = 0)
    (hH : e.length / 4 ≤ 8 * (H e).length) : (sentenceBits H e).length = 11 * (3 * (e.length / 4)) := by
  simp [sentenceBits, checksumBits]
  omega

theorem mnemonicEncode_spec (H : Bytes → Bytes) (e : Bytes) (wl : List Bytes) (hwl : wl.length = 2048)
    (h4 : e.length % 4 = 0) (hH : e.length / 4 ≤ 8 * (H e).length) :
    mnemonicEncode H e wl = .ok (((groups 11 (sentenceBits H e).length (sentenceBits H e)).map
      bitsToNat).map (fun i => wl.getD i [])) := by
  obtain ⟨hw, hT, hl⟩ := wf_fromSlice_full e
  have hol : (fromSlice (H e) (e.length / 4)).len = e.length / 4 := by
    rw [fromSlice_len, Nat.mul_comm]
    exact Nat.min_eq_right hH
  obtain ⟨bits, hb, hbl, hbt, hbd, _⟩ := append_spec _ (fromSlice (H e) (e.length / 4)) hw
    (by rw [hol, fromSlice_data_length]; exact hH)
  rw [hT, toBits_fromSlice, show e.length / 4 = e.length * 8 / 32 by omega, ← checksumBits,
    ← sentenceBits] at hbt
  have hS := sentenceBits_length H e h4 hH
  obtain ⟨hn, hd, hr, h11⟩ : bits.len / 11 ≤ (sentenceBits H e).length ∧
      11 * (0 + bits.len / 11) ≤ 8 * bits.data.length ∧ ¬ bits.len % 11 ≠ 0 ∧
      11 * (bits.len / 11) = bits.len := by omega
  unfold mnemonicEncode
  simp only [hb]
  rw [encLoop_spec bits wl hwl (bits.len / 11) 0 [] (sentenceBits H e).length hn hd]
  simp only
  rw [if_neg hr, List.drop_zero, h11, ← toBits, hbt]
  simp [List.map_map, Function.comp_def]

theorem position_eq_indexOf (w : Bytes) (l : List Bytes) : position w l = indexOf w l := by
  induction l with
  | nil => rfl
  | cons x xs ih =>
    simp only [position, indexOf, ih]
    by_cases h : x = w
    · simp [h]
    · have h' : ¬ w = x := fun e => h e.symm
      simp [h, h']

theorem indexOf_some {w : Bytes} {l : List Bytes} {v : Nat} (h : indexOf w l = some v) :
    v < l.length ∧ l[v]? = some w := by
  induction l generalizing v with
  | nil => simp [indexOf] at h
  | cons x xs ih =>
    simp only [indexOf] at h
    split at h
    · rename_i hx
      simp at h
      subst h
      simp [eq_of_beq hx]
    · cases hr : indexOf w xs with
      | none => simp [hr] at h
      | some u =>
        simp [hr] at h
        subst h
        obtain ⟨h1, h2⟩ := ih hr
        exact ⟨by simp; omega, by simpa using h2⟩

theorem indexOf_none {w : Bytes} {l : List Bytes} : indexOf w l = none ↔ w ∉ l := by
  induction l with
  | nil => simp [indexOf]
  | cons x xs ih =>
    simp only [indexOf, List.mem_cons, not_or]
    by_cases hx : w = x
    · simp [hx]
    · simp [hx, ih]

theorem indexOf_getElem (l : List Bytes) (hn : l.Nodup) (i : Nat) (hi : i < l.length) :
    indexOf l[i] l = some i := by
  induction l generalizing i with
  | nil => simp at hi
  | cons x xs ih =>
    rw [List.nodup_cons] at hn
    cases i with
    | zero => simp [indexOf]
    | succ i =>
      simp only [List.getElem_cons_succ, indexOf]
      have hi' : i < xs.length := by simpa using hi
      have hne : ¬ xs[i] = x := fun e => hn.1 (e ▸ List.getElem_mem hi')
      simp [hne, ih hn.2 i hi']

theorem wordBits_eq (v : Nat) : wordBits v =
    ⟨[UInt8.ofNat (v / 8 % 256), keepTop (UInt8.ofNat (v % 8 * 32 % 256)) 3], 11⟩ := by
  simp [wordBits, fromSlice, modifyLast]

theorem wordBits_len (v : Nat) : (wordBits v).len = 11 := by rw [wordBits_eq]

theorem wordBits_bits (v : Nat) :
    bytesToBits (wordBits v).data = natToBits 11 v ++ List.replicate 5 false := by
  rw [wordBits_eq]
  simp only [bytesToBits_cons, bytesToBits_nil, List.append_nil, byteBits_keepTop _ 3 (by omega),
    byteBits_ofNat]
  rw [show (11 : Nat) = 8 + 3 by rfl, natToBits_add, natToBits_take 8 3 _ (by omega),
    show (256 : Nat) = 2 ^ 8 by rfl, natToBits_mod 8 8 _ (Nat.le_refl _),
    show v % 8 * 32 % 2 ^ 8 / 2 ^ (8 - 3) = v % 2 ^ 3 by omega, natToBits_mod 3 3 _ (Nat.le_refl _),
    List.append_assoc]

theorem toBits_wordBits (v : Nat) : toBits (wordBits v) = natToBits 11 v := by
  rw [toBits, wordBits_bits, wordBits_len, List.take_left' (natToBits_length 11 v)]

theorem wf_wordBits (v : Nat) : WF (wordBits v) := by
  refine ⟨by rw [wordBits_eq]; simp, ?_⟩
  rw [wordBits_bits, toBits_wordBits, wordBits_eq]
  rfl

theorem decLoop_spec (wl : List Bytes) : ∀ (mn : List Bytes) (bits : Bits), WF bits →
    match allSome (mn.map (indexOf · wl)) with
    | none => decLoop wl mn bits = .err "BadArgument"
    | some idx => ∃ r, decLoop wl mn bits = .ok r ∧ WF r ∧ r.len = bits.len + 11 * mn.length ∧
        toBits r = toBits bits ++ idx.flatMap (natToBits 11)
  | [], bits, hw => ⟨bits, rfl, hw, by simp, by simp⟩
  | w :: ws, bits, hw => by
    simp only [List.map_cons, decLoop, position_eq_indexOf]
    cases hv : indexOf w wl with
    | none => simp [allSome]
    | some v =>
      obtain ⟨b1, hb1, hl1, ht1, _, hw1⟩ := append_spec bits (wordBits v) hw
        (by rw [wordBits_len, wordBits_eq]; simp)
      have ih := decLoop_spec wl ws b1 (hw1 (wf_wordBits v))
      simp only [allSome, hb1]
      cases hr : allSome (ws.map (indexOf · wl)) with
      | none => simpa [hr] using ih
      | some rest =>
        obtain ⟨r, h1, h2, h3, h4⟩ : ∃ r, _ := by simpa [hr] using ih
        exact ⟨r, h1, h2, by rw [h3, hl1, wordBits_len]; simp; omega,
          by rw [h4, ht1, toBits_wordBits]; simp⟩
theorem allSome_none_iff {α} (l : List (Option α)) : allSome l = none ↔ none ∈ l := by
  induction l with
  | nil => simp [allSome]
  | cons a r ih =>
    cases a with
    | none => simp [allSome]
    | some a =>
      simp only [allSome, Option.map_eq_none_iff, ih]
      simp

theorem allSome_length {α} {l : List (Option α)} {r : List α} (h : allSome l = some r) :
    r.length = l.length := by
  induction l generalizing r with
  | nil =>
    cases h
    rfl
  | cons a t ih =>
    cases a with
    | none => cases h
    | some a =>
      obtain ⟨u, hu, rfl⟩ := Option.map_eq_some_iff.mp h
      simp [ih hu]

theorem groups8_bytes (d : Bytes) : ∀ f, d.length ≤ f →
    (groups 8 f (bytesToBits d)).map (fun g => UInt8.ofNat (bitsToNat g)) = d := by
  induction d with
  | nil =>
    intro f _
    simp [groups_nil]
  | cons x r ih =>
    intro f hf
    obtain ⟨f', rfl⟩ : ∃ f', f = f' + 1 := ⟨f - 1, by simp at hf; omega⟩
    rw [bytesToBits_cons, groups_append 8 f' _ _ (byteBits_length x) (by decide), List.map_cons,
      ih f' (by simpa using hf), byteBits, bitsToNat_natToBits, Nat.mod_eq_of_lt x.toNat_lt,
      UInt8.ofNat_toNat]

theorem bitsToBytes_bytesToBits (d : Bytes) : bitsToBytes (bytesToBits d) = d := by
  unfold bitsToBytes
  exact groups8_bytes d _ (by simp; omega)

theorem bytesToBits_injective {a b : Bytes} (h : bytesToBits a = bytesToBits b) : a = b := by
  rw [← bitsToBytes_bytesToBits a, h, bitsToBytes_bytesToBits]

/-- `mnemonic_decode` on a sentence of `3k` listed words: the data bytes are the first `32k` bits of
    the concatenated 11-bit indexes; accepted iff the `u64` values of the two `k`-bit checksums agree -/
theorem decode_core (H : Bytes → Bytes) (wl mn : List Bytes) (idx : List Nat) (k : Nat)
    (hidx : allSome (mn.map (indexOf · wl)) = some idx) (hk : mn.length = 3 * k)
    (hH : ∀ x, k ≤ 8 * (H x).length) :
    mnemonicDecode H mn wl =
      if bitsToNat ((bytesToBits (H (bitsToBytes ((idx.flatMap (natToBits 11)).take (32 * k))))).take k)
            % 2 ^ 64 ≠ bitsToNat ((idx.flatMap (natToBits 11)).drop (32 * k)) % 2 ^ 64
      then .err "BadArgument"
      else .ok (bitsToBytes ((idx.flatMap (natToBits 11)).take (32 * k))) := by
  have hdec := decLoop_spec wl mn Bits.new wf_new
  rw [hidx] at hdec
  obtain ⟨r, hr, hw, hl, hT⟩ := hdec
  simp only [toBits_new, List.nil_append] at hT
  have hlen : r.len = 33 * k := by rw [hl, hk]; simp [Bits.new]; omega
  have hdl := hw.1
  obtain ⟨a1, a2, a3, a4, a5⟩ : 33 * k * 32 / 33 = 32 * k ∧ 33 * k / 33 = k ∧ 32 * k / 8 = 4 * k ∧
      ¬ r.data.length < 4 * k ∧ 8 * (4 * k) = 32 * k := by omega
  generalize hF : idx.flatMap (natToBits 11) = F at hT ⊢
  have hFl : F.length = 32 * k + k := by rw [← hT, toBits_length r hw.len_le, hlen]; omega
  have hD := hw.2
  rw [hT] at hD
  have hd : bitsToBytes (F.take (32 * k)) = r.data.take (4 * k) := by
    rw [← bitsToBytes_bytesToBits (r.data.take (4 * k)), bytesToBits_take, hD, a5,
      List.take_append_of_le_length (by rw [hFl]; exact Nat.le_add_right _ _)]
  have hcl : (fromSlice (H (r.data.take (4 * k))) k).len = k := by
    rw [fromSlice_len, Nat.mul_comm]
    exact Nat.min_eq_right (hH _)
  rw [hd]
  unfold mnemonicDecode
  simp only [hr]
  rw [hlen, a1, a2, a3, if_neg a4,
    extract_toBits _ 0 k (by rw [hcl]; exact Nat.le_of_eq (Nat.zero_add k))
      (by rw [hcl, fromSlice_data_length]; exact hH _),
    extract_toBits r (32 * k) k (by rw [hlen]; omega) hw.len_le]
  simp only [toBits_fromSlice, List.drop_zero, List.take_take, Nat.min_self, hT]
  rw [List.take_of_length_le (l := F.drop (32 * k)) (by rw [List.length_drop, hFl]; omega)]

theorem flatMap_natToBits_length (idx : List Nat) : (idx.flatMap (natToBits 11)).length = 11 * idx.length := by
  induction idx with
  | nil => rfl
  | cons a r ih =>
    simp [ih]
    omega

/-- `k ≤ 64`: the `u64` comparison of the checksums is then exact -/
theorem decode_eq_spec (H : Bytes → Bytes) (wl mn : List Bytes) (k : Nat)
    (hk : mn.length = 3 * k) (hk64 : k ≤ 64) (hH : ∀ x, k ≤ 8 * (H x).length) :
    mnemonicDecode H mn wl =
      match Spec.Bip39.decode H wl mn with
      | .entropy e => .ok e
      | _ => .err "BadArgument" := by
  unfold Spec.Bip39.decode
  cases hidx : allSome (mn.map (indexOf · wl)) with
  | none =>
    have hdec := decLoop_spec wl mn Bits.new wf_new
    rw [hidx] at hdec
    simp only [mnemonicDecode, hdec]
  | some idx =>
    rw [decode_core H wl mn idx k hidx hk hH]
    simp only [show mn.length % 3 = 0 by omega, show mn.length / 3 = k by omega, ne_eq,
      not_true_eq_false, if_false]
    generalize hF : idx.flatMap (natToBits 11) = F
    have hl2 : (F.drop (32 * k)).length = k := by
      rw [← hF, List.length_drop, flatMap_natToBits_length, allSome_length hidx, List.length_map, hk]
      omega
    generalize bitsToBytes (F.take (32 * k)) = e
    have hl1 : ((bytesToBits (H e)).take k).length = (F.drop (32 * k)).length := by
      rw [hl2, List.length_take, bytesToBits_length]
      exact Nat.min_eq_left (hH e)
    simp only [bitsToNat_mod_inj hl1 (by rw [hl2]; exact hk64)]
    by_cases h : (bytesToBits (H e)).take k = F.drop (32 * k) <;> simp [h]

theorem allSome_indexOf_getD (wl : List Bytes) (hn : wl.Nodup) (idx : List Nat)
    (h : ∀ i ∈ idx, i < wl.length) :
    allSome ((idx.map (fun i => wl.getD i [])).map (indexOf · wl)) = some idx := by
  induction idx with
  | nil => rfl
  | cons a r ih =>
    have ha : a < wl.length := h a (by simp)
    simp only [List.map_cons, List.getD_eq_getElem?_getD, List.getElem?_eq_getElem ha, Option.getD_some,
      indexOf_getElem wl hn a ha, allSome]
    have := ih (fun i hi => h i (by simp [hi]))
    simp only [List.getD_eq_getElem?_getD] at this
    rw [this]
    rfl

theorem decode_encode (H : Bytes → Bytes) (e : Bytes) (wl : List Bytes) (hwl : wl.length = 2048)
    (hn : wl.Nodup) (h4 : e.length % 4 = 0) (hH : ∀ x, e.length / 4 ≤ 8 * (H x).length) :
    mnemonicDecode H (((groups 11 (sentenceBits H e).length (sentenceBits H e)).map bitsToNat).map
      (fun i => wl.getD i [])) wl = .ok e := by
  have hS := sentenceBits_length H e h4 (hH e)
  obtain ⟨g1, g2, g3⟩ := groups_spec 11 (by omega) (3 * (e.length / 4)) (sentenceBits H e).length
    (sentenceBits H e) hS (by omega)
  generalize hG : groups 11 (sentenceBits H e).length (sentenceBits H e) = G at g1 g2 g3 ⊢
  have hidx : ∀ i ∈ G.map bitsToNat, i < wl.length := by
    intro i hi
    obtain ⟨g, hg, rfl⟩ := List.mem_map.mp hi
    have := bitsToNat_lt g
    rw [g2 g hg] at this
    omega
  have hF : (G.map bitsToNat).flatMap (natToBits 11) = sentenceBits H e := by
    rw [← g3, List.flatMap_def, List.map_map, List.map_congr_left (g := id)
      (fun g hg => by simpa [g2 g hg] using natToBits_bitsToNat g), List.map_id]
  rw [decode_core H wl _ (G.map bitsToNat) (e.length / 4)
    (allSome_indexOf_getD wl hn _ hidx) (by simp [g1]) hH, hF]
  have h1 : (sentenceBits H e).take (32 * (e.length / 4)) = bytesToBits e := by
    rw [sentenceBits, List.take_left' (by simp; omega)]
  have h2 : (sentenceBits H e).drop (32 * (e.length / 4)) = (bytesToBits (H e)).take (e.length / 4) := by
    rw [sentenceBits, List.drop_left' (by simp; omega), checksumBits]
    congr 1
    omega
  rw [h1, h2, bitsToBytes_bytesToBits]
  simp

end CG.Proofs.Mnemonic
