import CG.Model.PeerConc
/-!
The sequential event model of the peer (`CG.Model.Peer`, one event = one atomic step; the subject of
`CG.Props.C12`) is the interleaving model (`CG.Model.PeerConc`) under ATOMIC schedules: every remote event is
run by the receive thread from its read to its return to the read (or its death), every local call by the one
local thread from its first step to its last, with no other thread in between.
-/
namespace CG.Proofs.PeerRefine
open CG CG.Model
open CG.Model.PeerConc (St RemoteEv RPc LOp LPc LThread)

/-- the sequential events of the connected phase that the interleaving model speaks about -/
def remoteOf : Peer.Event → Option RemoteEv
  | .remoteFrame m => some (.frame m)
  | .remoteGarbage _ => some .fail
  | .remoteClose => some .fail
  | _ => none

def localOf : Peer.Event → Option LOp
  | .localSend m => some (.send m)
  | .localDisconnect => some .disconnect
  | _ => none

/-- the atomic block of thread steps for one event, given the sequential state before it
    (`0` = a step of the receive thread, `1` = a step of the local thread) -/
def block (s : Peer.State) : Peer.Event → List Nat
  | .remoteFrame _ =>
    -- flag set: read, test, handle, publish; flag cleared: read, test (the thread returns)
    if s.phase == .dead then [] else if s.flag then [0, 0, 0, 0] else [0, 0]
  | .remoteGarbage _ | .remoteClose =>
    -- flag set: read, test, the three steps of `disconnect()`; flag cleared: read, test
    if s.phase == .dead then [] else if s.flag then [0, 0, 0, 0, 0] else [0, 0]
  | .remoteSilence => []
  -- refused flag load; load, write; load, failed write, the three steps of `disconnect()`
  | .localSend m => if !s.flag then [1] else if m.writable then [1, 1] else [1, 1, 1, 1, 1]
  | .localDisconnect => [1, 1, 1, 1]  -- the call, the three steps of `disconnect()`

def atomicSched (filter : Peer.VersionInfo → Bool) : Peer.State → List Peer.Event → List Nat
  | _, [] => []
  | s, e :: es => block s e ++ atomicSched filter (Peer.step filter s e).1 es

/-- the sequential state the interleaving model starts from: just after the handshake -/
def seqInit : Peer.State := ⟨.connected, true, true, true, false, 0, false, false⟩

def remotes (es : List Peer.Event) : List RemoteEv := es.filterMap remoteOf
def locals (es : List Peer.Event) : List LOp := es.filterMap localOf

/-- sequential states reachable in the connected phase from `seqInit` -/
structure SeqOk (σ : Peer.State) : Prop where
  phase : σ.phase = .connected ∨ σ.phase = .dead
  writer : σ.writer = true
  fired : σ.discFired = !σ.flag
  dead : σ.phase = .dead → σ.flag = false

/-- the correspondence that `shape` computes, written as a relation: `rel_shape` and `shape_rel` below -/
structure Rel (σ : Peer.State) (s : St) (es : List Peer.Event) : Prop where
  flag : s.flag = σ.flag
  shut : s.shut = !σ.flag
  wlock : s.wlock = none
  discFired : s.discFired = σ.discFired
  r : s.r = if σ.phase = .dead then .dead else .read
  locals : s.locals = [⟨.idle, locals es⟩]
  remote : σ.phase ≠ .dead → s.remote = remotes es

theorem run_append (s : St) (a b : List Nat) : PeerConc.run s (a ++ b) = PeerConc.run (PeerConc.run s a) b := by
  induction a generalizing s with
  | nil => rfl
  | cons t r ih =>
    simp only [List.cons_append, PeerConc.run]
    split <;> exact ih _

theorem seqOk_init : SeqOk seqInit := ⟨Or.inl rfl, rfl, rfl, by intro h; cases h⟩

/-- the interleaving state that corresponds to sequential state `σ` with events `es` still to come, given what
    the remote still delivers and the log so far -/
def shape (σ : Peer.State) (rem : List RemoteEv) (es : List Peer.Event) (out : List Peer.Output) : St :=
  { flag := σ.flag, shut := !σ.flag, wlock := none, discFired := σ.discFired, remote := rem,
    r := if σ.phase = .dead then .dead else .read, locals := [⟨.idle, locals es⟩], out := out }

theorem rel_shape {σ : Peer.State} {s : St} {es : List Peer.Event} (h : Rel σ s es) :
    s = shape σ s.remote es s.out := by
  obtain ⟨a, b, c, d, e, f, g, o⟩ := s
  obtain ⟨rfl, rfl, rfl, rfl, rfl, rfl, _⟩ := h
  rfl

theorem shape_rel (σ : Peer.State) (rem : List RemoteEv) (es : List Peer.Event) (out : List Peer.Output)
    (hrem : σ.phase ≠ .dead → rem = remotes es) : Rel σ (shape σ rem es out) es :=
  ⟨rfl, rfl, rfl, rfl, rfl, rfl, hrem⟩

theorem SeqOk.disconnect {σ : Peer.State} (h : SeqOk σ) : SeqOk (Peer.disconnect σ).1 :=
  ⟨h.phase, h.writer, rfl, fun _ => rfl⟩

theorem SeqOk.threadFail {σ : Peer.State} (h : SeqOk σ) : SeqOk (Peer.threadFail σ).1 :=
  ⟨.inr rfl, h.writer, rfl, fun _ => rfl⟩

/-- the receive thread returns after a failed flag test -/
theorem SeqOk.die {σ : Peer.State} (h : SeqOk σ) (hf : (!σ.flag) = true) : SeqOk { σ with phase := .dead } :=
  ⟨.inr rfl, h.writer, h.fired, fun _ => by simpa using hf⟩

theorem SeqOk.send {σ : Peer.State} (h : SeqOk σ) (w : Peer.Wire) (b : Bool) : SeqOk (Peer.send σ w b).1 := by
  unfold Peer.send
  split
  · exact h
  · split
    · exact h
    · split
      · exact h
      · exact h.disconnect

theorem SeqOk.handleMessage {σ : Peer.State} (h : SeqOk σ) (m : Peer.Msg) : SeqOk (Peer.handleMessage σ m).1 := by
  unfold Peer.handleMessage
  split
  · exact ⟨h.phase, h.writer, h.fired, h.dead⟩
  · exact h.send _ _
  · exact ⟨h.phase, h.writer, h.fired, h.dead⟩
  · exact ⟨h.phase, h.writer, h.fired, h.dead⟩
  · exact h

theorem SeqOk.onFrameConnected {σ : Peer.State} (h : SeqOk σ) (m : Peer.Msg) :
    SeqOk (Peer.onFrameConnected σ m).1 := by
  unfold Peer.onFrameConnected
  split
  next hdown => exact h.die hdown
  next =>
    dsimp only
    split
    · exact h.handleMessage m
    · exact (h.handleMessage m).threadFail

theorem SeqOk.onReadError {σ : Peer.State} (h : SeqOk σ) : SeqOk (Peer.onReadError σ).1 := by
  unfold Peer.onReadError
  split
  · exact h.threadFail
  · exact h.threadFail
  · split
    next hdown => exact h.die hdown
    next => exact h.threadFail
  · exact h

theorem seqOk_step (filter : Peer.VersionInfo → Bool) (σ : Peer.State) (e : Peer.Event) (hσ : SeqOk σ) :
    SeqOk (Peer.step filter σ e).1 := by
  cases e with
  | remoteFrame m =>
    rcases hσ.phase with hp | hp <;> simp only [Peer.step, hp]
    · exact hσ.onFrameConnected m
    · exact hσ
  | remoteGarbage _ => exact hσ.onReadError
  | remoteClose => exact hσ.onReadError
  | remoteSilence => rcases hσ.phase with hp | hp <;> simp only [Peer.step, hp] <;> exact hσ
  | localSend m => exact hσ.send _ _
  | localDisconnect => exact hσ.disconnect

section
/- Both machines are run symbolically on one event: these definitions are what has to be unfolded. -/
attribute [local simp] shape block locals localOf remotes remoteOf Peer.step Peer.onFrameConnected Peer.onReadError
  Peer.handleMessage Peer.send Peer.threadFail Peer.disconnect PeerConc.run PeerConc.step PeerConc.stepR PeerConc.stepL
  PeerConc.discStep PeerConc.discEff PeerConc.canWrite List.filterMap_cons

/-- **One event is its block.**  The interleaving model in the state corresponding to `σ`, run through the atomic block
    of the event `e`, ends in the state corresponding to the sequential step and has logged its outputs; `rem1` is what
    the remote still delivers afterwards. -/
theorem block_run (filter : Peer.VersionInfo → Bool) (σ : Peer.State) (rem : List RemoteEv) (es : List Peer.Event)
    (out : List Peer.Output) (e : Peer.Event) (hσ : SeqOk σ) (hrem : σ.phase ≠ .dead → rem = remotes (e :: es)) :
    ∃ rem1, PeerConc.run (shape σ rem (e :: es) out) (block σ e) =
        shape (Peer.step filter σ e).1 rem1 es (out ++ (Peer.step filter σ e).2) ∧
      ((Peer.step filter σ e).1.phase ≠ .dead → rem1 = remotes es) := by
  obtain ⟨ph, fl, wr, cf, df, mf, sh, sc⟩ := σ
  have hf := hσ.fired; simp only at hf; subst hf
  have hw := hσ.writer; simp only at hw; subst hw
  rcases hσ.phase with hp | hp <;> simp only at hp <;> subst hp
  · have hrem := hrem (by simp)
    cases e with
    | remoteFrame m =>
      subst hrem
      refine ⟨remotes es, ?_, fun _ => rfl⟩
      cases fl
      · simp
      · cases hk : m.kind <;> simp [hk]
    | remoteGarbage g =>
      subst hrem
      refine ⟨remotes es, ?_, fun _ => rfl⟩
      cases fl <;> simp
    | remoteClose =>
      subst hrem
      refine ⟨remotes es, ?_, fun _ => rfl⟩
      cases fl <;> simp
    | remoteSilence => exact ⟨rem, by simp, fun _ => by simpa using hrem⟩
    | localSend m =>
      refine ⟨rem, ?_, fun _ => by simpa using hrem⟩
      cases fl <;> cases hm : m.writable <;> simp [hm]
    | localDisconnect =>
      refine ⟨rem, ?_, fun _ => by simpa using hrem⟩
      cases fl <;> simp
  · -- the receive thread has returned: remote events find nobody, local calls see the cleared flag
    have hfl : fl = false := by simpa using hσ.dead rfl
    subst hfl
    refine ⟨rem, ?_, fun h => absurd ?_ h⟩
    · cases e <;> simp
    · cases e <;> simp
end

/-- **Refinement.**  From any sequential state of the connected phase, the interleaving model started in the
    corresponding state and run under the atomic schedule ends in the state corresponding to the sequential
    run and has logged exactly the sequential outputs. -/
theorem refines (filter : Peer.VersionInfo → Bool) (es : List Peer.Event) (σ : Peer.State) (hσ : SeqOk σ)
    (rem : List RemoteEv) (out : List Peer.Output) (hrem : σ.phase ≠ .dead → rem = remotes es) :
    ∃ rem', PeerConc.run (shape σ rem es out) (atomicSched filter σ es) =
      shape (Peer.runFrom filter σ es).1 rem' [] (out ++ (Peer.runFrom filter σ es).2) := by
  induction es generalizing σ rem out with
  | nil => exact ⟨rem, by simp [atomicSched, Peer.runFrom, PeerConc.run]⟩
  | cons e es ih =>
    simp only [atomicSched, Peer.runFrom, run_append]
    obtain ⟨rem1, hrun, hrem1⟩ := block_run filter σ rem es out e hσ hrem
    rw [hrun]
    obtain ⟨rem', h⟩ := ih (Peer.step filter σ e).1 (seqOk_step filter σ e hσ) rem1 (out ++ (Peer.step filter σ e).2) hrem1
    exact ⟨rem', by rw [h]; simp [List.append_assoc]⟩

end CG.Proofs.PeerRefine
