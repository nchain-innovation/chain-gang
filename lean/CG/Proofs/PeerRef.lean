import CG.Proofs.Peer
/-!
The state-machine model against the cut-based reference (`CG.Spec.PeerSpec.expected`): for every
session in the reference's scope the observable log of the model is the expected one.
-/
namespace CG.Proofs.Peer
open CG CG.Model.Peer CG.Spec.PeerSpec

theorem handshakePart_append (p live : List Event) : handshakePart (p ++ live) live = p := by
  simp [handshakePart]

def isSend : Event → Bool
  | .localSend _ => true
  | _ => false

theorem no_disc_mem {l : List Event} (hd : hasLocalDisconnect l = false) {x : Event} (hx : x ∈ l)
    (hl : x.isLocal = true) : isSend x = true := by
  cases x with
  | localSend m => rfl
  | localDisconnect =>
    exfalso
    have : hasLocalDisconnect l = true := by
      simp only [hasLocalDisconnect, List.any_eq_true]
      exact ⟨_, hx, rfl⟩
    rw [hd] at this
    cases this
  | _ => simp [Event.isLocal] at hl

theorem local_no_disc {pre : List Event} (hl : ∀ x ∈ pre, x.isLocal = true) (hd : hasLocalDisconnect pre = false) :
    ∀ x ∈ pre, isSend x = true :=
  fun x hx => no_disc_mem hd hx (hl x hx)

theorem hasLocalDisconnect_append (a b : List Event) :
    hasLocalDisconnect (a ++ b) = (hasLocalDisconnect a || hasLocalDisconnect b) := by
  simp [hasLocalDisconnect]

theorem sendCalls_append (a b : List Event) : sendCalls (a ++ b) = sendCalls a + sendCalls b := by
  simp [sendCalls]

theorem sendErrs_append (a b : List Event) : sendErrs (a ++ b) = sendErrs a ++ sendErrs b := by
  simp [sendErrs]

theorem obsOf_append (a b : List Output) : obsOf (a ++ b) = obsOf a ++ obsOf b := by
  simp [obsOf]

theorem proj_wrote (w : Wire) (l : List Output) :
    obsOf (.wrote w :: l) = obsOf l ∧ wires (.wrote w :: l) = w :: wires l ∧
    sendResults (.wrote w :: l) = sendResults l ∧ delivered (.wrote w :: l) = delivered l :=
  ⟨rfl, rfl, rfl, rfl⟩

theorem hs_sends_run (f : VersionInfo → Bool) (pre : List Event) (s : State) (h : invB s = true)
    (hp : inHandshake s = true) (he : ∀ x ∈ pre, isSend x = true) :
    runFrom f s pre = (s, sendErrs pre) := by
  induction pre with
  | nil => rfl
  | cons e es ih =>
    cases e with
    | localSend m =>
      rw [runFrom_cons, step_send_refused f (.inl (inv_handshake h hp).1)]
      simp only
      rw [ih (fun x hx => he x (List.mem_cons_of_mem _ hx))]
      rfl
    | _ => cases he _ (List.mem_cons_self ..)

theorem live_run_exact (f : VersionInfo → Bool) (before : List Event) (s : State) (h : live s = true)
    (ht : ∀ x ∈ before, terminates x = false) :
    (runFrom f s before).2 = before.flatMap liveOut ∧ live (runFrom f s before).1 = true ∧
    (runFrom f s before).1.discFired = s.discFired := by
  induction before generalizing s with
  | nil => simp [runFrom_nil, h]
  | cons e es ih =>
    have h1 := live_step_exact f s e h (ht e (List.mem_cons_self ..))
    have h2 := ih _ h1.2.1 (fun x hx => ht x (List.mem_cons_of_mem _ hx))
    refine ⟨by simp [runFrom_cons, h1.1, h2.1], by simpa [runFrom_cons] using h2.2.1, ?_⟩
    simp only [runFrom_cons]
    rw [h2.2.2, h1.2.2]

theorem liveOut_obs (before : List Event) :
    obsOf (before.flatMap liveOut) = (before.filterMap frameOf).map .message ∧
    delivered (before.flatMap liveOut) = before.filterMap frameOf := by
  induction before with
  | nil => exact ⟨rfl, rfl⟩
  | cons e es ih =>
    simp only [List.flatMap_cons, obsOf_append, delivered_append, ih.1, ih.2]
    cases e with
    | remoteFrame m =>
      cases hn : pingNonce m <;> simp [liveOut, hn, obsOf, delivered, frameOf]
    | _ => simp [liveOut, obsOf, delivered, frameOf, List.filterMap_cons]

theorem liveOut_wires (before : List Event) (ht : ∀ x ∈ before, terminates x = false) :
    wires (before.flatMap liveOut) = before.filterMap wireOf ∧
    sendResults (before.flatMap liveOut) = List.replicate (sendCalls before) none := by
  induction before with
  | nil => exact ⟨rfl, rfl⟩
  | cons e es ih =>
    have ih' := ih (fun x hx => ht x (List.mem_cons_of_mem _ hx))
    have he := ht e (List.mem_cons_self ..)
    simp only [List.flatMap_cons, wires_append, sendResults_append, ih'.1, ih'.2]
    cases e with
    | remoteFrame m =>
      cases hn : pingNonce m <;> simp [liveOut, hn, wires, sendResults, wireOf, sendCalls]
    | localSend m =>
      have hw : m.writable = true := by simpa [terminates] using he
      simp [liveOut, wires, sendResults, wireOf, sendCalls, hw, List.replicate_succ]
    | _ => simp [liveOut, wires, sendResults, wireOf, sendCalls, List.filterMap_cons]

/-- the outputs of the terminating event of a live session whose disconnected event is unpublished -/
def termOut : Event → List Output
  | .localSend _ => [.emitDisconnected, .sendResult (some .io)]
  | _ => [.emitDisconnected]

theorem term_step_exact (f : VersionInfo → Bool) (s : State) (e : Event) (h : live s = true)
    (hd : s.discFired = false) (ht : terminates e = true) :
    (step f s e).2 = termOut e ∧ quiet (step f s e).1 = true ∧ annState (step f s e).1 = annState s := by
  obtain ⟨hp, hfl, hw⟩ := live_iff.mp h
  have hc := step_cases f s e
  generalize step f s e = r at hc
  cases hc with
  | readError e _ _ hf => cases e <;> simp_all [remoteFault, termOut, threadFail, disconnect, quiet, annState]
  | sendFails | localDisconnect => simp [termOut, disconnect, hd, quiet, hp, annState]
  -- the other behaviours need the handshake phase, a dead thread, the flag down or no writer, or do not terminate
  | versionAccepted | handshakeCompleted | handshakeFault | delivered | pingAnswered | pongFails
  | flagDown | silence | dead | sendRefused | sendWritten => simp_all [inHandshake, terminates]

theorem quiet_closed (s : State) (h : invB s = true) (hq : quiet s = true) :
    s.closed = true ∧ s.flag = false := by
  obtain ⟨hfl, -, hph⟩ := quiet_iff.mp hq
  rcases hph with hp | hp
  · simp [State.closed, hfl, (inv_connected h hp).1]
  · simp [State.closed, hfl, hp]

theorem live_open (s : State) (h : live s = true) : s.closed = false ∧ s.flag = true := by
  obtain ⟨hp, hfl, -⟩ := live_iff.mp h
  simp [State.closed, hp, hfl]

theorem afterHandshake_shape (f : VersionInfo → Bool) (evs live : List Event) (h : afterHandshake f evs = some live) :
    ∃ pre1 vm pre2 am, evs = (pre1 ++ .remoteFrame vm :: pre2 ++ [.remoteFrame am]) ++ live ∧
      (∀ x ∈ pre1, x.isLocal = true) ∧ (∀ x ∈ pre2, x.isLocal = true) ∧
      acceptable f vm = true ∧ isVerack am = true := by
  unfold afterHandshake versionAccepted at h
  cases h1 : nextRemote evs with
  | none => simp [h1] at h
  | some p =>
    obtain ⟨e, rest⟩ := p
    rw [h1] at h
    cases e with
    | remoteFrame vm =>
      simp only at h
      by_cases hv : acceptable f vm = true
      · simp only [hv, if_true] at h
        cases h2 : nextRemote rest with
        | none => simp [h2] at h
        | some q =>
          obtain ⟨e2, live'⟩ := q
          rw [h2] at h
          cases e2 with
          | remoteFrame am =>
            simp only at h
            by_cases ha : isVerack am = true
            · simp only [ha, if_true, Option.some.injEq] at h
              subst h
              obtain ⟨-, -, pre1, he1, hl1⟩ := nextRemote_some h1
              obtain ⟨-, -, pre2, he2, hl2⟩ := nextRemote_some h2
              exact ⟨pre1, vm, pre2, am, by rw [he1, he2]; simp, hl1, hl2, hv, ha⟩
            · simp [ha] at h
          | _ => simp at h
      · simp [hv] at h
    | _ => simp at h

theorem handshake_run_exact (f : VersionInfo → Bool) (pre1 pre2 : List Event) (vm am : Msg)
    (hl1 : ∀ x ∈ pre1, isSend x = true) (hl2 : ∀ x ∈ pre2, isSend x = true)
    (hv : acceptable f vm = true) (ha : isVerack am = true) :
    runFrom f init (pre1 ++ .remoteFrame vm :: pre2 ++ [.remoteFrame am]) =
      ({ init with phase := .connected, writer := true, flag := true, connFired := true },
       sendErrs (pre1 ++ .remoteFrame vm :: pre2 ++ [.remoteFrame am]) ++ [.wrote .verack, .wrote .hsPing, .emitConnected]) := by
  have e : pre1 ++ .remoteFrame vm :: pre2 ++ [.remoteFrame am] =
      pre1 ++ (.remoteFrame vm :: (pre2 ++ [.remoteFrame am])) := by simp
  rw [e, runFrom_append, hs_sends_run f pre1 init inv_init rfl hl1]
  simp only [runFrom_cons, step_frame_awaitVersion f (s := init) rfl, hv, if_true]
  rw [runFrom_append, hs_sends_run f pre2 { init with phase := .awaitVerack } rfl rfl hl2]
  simp only [runFrom_cons, runFrom_nil, step_frame_awaitVerack f (s := { init with phase := .awaitVerack }) rfl, ha,
    if_true]
  simp [completeHandshake, init, sendErrs]

theorem termOut_proj (t : Event) :
    obsOf (termOut t) = [.disconnected] ∧ wires (termOut t) = [] ∧ delivered (termOut t) = [] ∧
    sendResults (termOut t) = (match t with | .localSend _ => [some .io] | _ => []) := by
  cases t <;> simp [termOut, obsOf, wires, delivered, sendResults]

theorem span_terminates (l : List Event) :
    (∀ x ∈ l.takeWhile (fun e => !terminates e), terminates x = false) ∧
    (l.dropWhile (fun e => !terminates e) = [] ∨
      ∃ t post, l.dropWhile (fun e => !terminates e) = t :: post ∧ terminates t = true) := by
  refine ⟨fun x hx => ?_, ?_⟩
  · simpa using List.all_eq_true.mp (List.all_takeWhile (l := l) (p := fun e => !terminates e)) x hx
  · cases h : l.dropWhile (fun e => !terminates e) with
    | nil => exact .inl rfl
    | cons t post =>
      have := List.head_dropWhile_not (fun e => !terminates e) (l := l) (by simp [h])
      exact .inr ⟨t, post, rfl, by simpa [h] using this⟩

theorem rest_run (f : VersionInfo → Bool) (s : State) (rest : List Event) (hinv : invB s = true)
    (h : live s = true) (hd : s.discFired = false)
    (hr : rest = [] ∨ ∃ t post, rest = t :: post ∧ terminates t = true) :
    obsOf (runFrom f s rest).2 = (if rest.isEmpty then [] else [.disconnected]) ∧
    wires (runFrom f s rest).2 = [] ∧ delivered (runFrom f s rest).2 = [] ∧
    sendResults (runFrom f s rest).2 =
      (match (generalizing := false) rest with
       | .localSend _ :: _ => [some .io]
       | _ => []) ++ illegal (sendCalls (rest.drop 1)) ∧
    (runFrom f s rest).1.flag = rest.isEmpty ∧ (runFrom f s rest).1.closed = !rest.isEmpty := by
  rcases hr with rfl | ⟨t, post, rfl, hterm⟩
  · obtain ⟨h1, h2⟩ := live_open s h
    simpa [runFrom_nil, obsOf, wires, delivered, sendResults, illegal, sendCalls] using ⟨h2, h1⟩
  · have rT := term_step_exact f s t h hd hterm
    have rQ := quiet_run f post _ rT.2.1
    have hcl := quiet_closed _ (inv_runFrom f (t :: post) s hinv) (by rw [runFrom_cons]; exact rQ.1)
    obtain ⟨p1, p2, p3, p4⟩ := termOut_proj t
    have hsp := sendErrs_silent post
    have hrun : (runFrom f s (t :: post)).2 = termOut t ++ sendErrs post := by
      rw [runFrom_cons, rT.1, rQ.2.1]
    rw [hrun, obsOf_append, wires_append, delivered_append, sendResults_append, p1, p2, p3, p4, hsp.1, hsp.2.1,
      hsp.2.2.2.2.2, sendErrs_sendResults, hcl.1, hcl.2]
    cases t <;> simp [illegal]

/-- `T` = what the terminating event and everything after it produce -/
theorem connected_outputs_proj (hs before : List Event) (T : List Output)
    (hb : ∀ x ∈ before, terminates x = false) :
    let O := Output.wrote .version ::
      (sendErrs hs ++ [.wrote .verack, .wrote .hsPing, .emitConnected] ++ (before.flatMap liveOut ++ T))
    obsOf O = .connected :: (before.filterMap frameOf).map .message ++ obsOf T ∧
    wires O = [.version, .verack, .hsPing] ++ before.filterMap wireOf ++ wires T ∧
    sendResults O = illegal (sendCalls hs) ++ List.replicate (sendCalls before) none ++ sendResults T ∧
    delivered O = before.filterMap frameOf ++ delivered T := by
  have hse := sendErrs_silent hs
  have hsr := sendErrs_sendResults hs
  have hlo := liveOut_obs before
  have hlw := liveOut_wires before hb
  have d1 : obsOf [Output.wrote .verack, .wrote .hsPing, .emitConnected] = [.connected] := rfl
  have d2 : wires [Output.wrote .verack, .wrote .hsPing, .emitConnected] = [.verack, .hsPing] := rfl
  have d3 : sendResults [Output.wrote .verack, .wrote .hsPing, .emitConnected] = [] := rfl
  have d4 : delivered [Output.wrote .verack, .wrote .hsPing, .emitConnected] = [] := rfl
  refine ⟨?_, ?_, ?_, ?_⟩
  · simp only [(proj_wrote .version _).1, obsOf_append, hse.2.2.2.2.2, d1, hlo.1]
    simp
  · simp only [(proj_wrote .version _).2.1, wires_append, hse.2.1, d2, hlw.1]
    simp
  · simp only [(proj_wrote .version _).2.2.1, sendResults_append, hsr, d3, hlw.2, illegal]
    simp
  · simp only [(proj_wrote .version _).2.2.2, delivered_append, hse.1, d4, hlo.2]
    simp

theorem matches_connected (f : VersionInfo → Bool) (evs live : List Event) (log : Log)
    (hah : afterHandshake f evs = some live) (h : expected f evs = some log) :
    observe (run f evs) = log := by
  obtain ⟨pre1, vm, pre2, am, hev, hl1, hl2, hv, ha⟩ := afterHandshake_shape f evs live hah
  generalize hhs : pre1 ++ .remoteFrame vm :: pre2 ++ [.remoteFrame am] = hs at hev
  have hpart : handshakePart evs live = hs := by rw [hev]; exact handshakePart_append _ _
  unfold expected at h
  rw [hah] at h
  simp only at h
  rw [hpart] at h
  cases hd : hasLocalDisconnect hs with
  | true => rw [hd] at h; simp at h
  | false =>
  rw [hd] at h
  simp only [Bool.false_eq_true, if_false, Option.some.injEq] at h
  subst h
  have hs1 : ∀ x ∈ pre1, isSend x = true := fun x hx => no_disc_mem hd (by rw [← hhs]; simp [hx]) (hl1 x hx)
  have hs2 : ∀ x ∈ pre2, isSend x = true := fun x hx => no_disc_mem hd (by rw [← hhs]; simp [hx]) (hl2 x hx)
  let sC : State := { init with phase := .connected, writer := true, flag := true, connFired := true }
  have rH : runFrom f init hs = (sC, sendErrs hs ++ [.wrote .verack, .wrote .hsPing, .emitConnected]) := by
    rw [← hhs]; exact handshake_run_exact f pre1 pre2 vm am hs1 hs2 hv ha
  obtain ⟨hbefore, hrestc⟩ := span_terminates live
  have hsplit : live = live.takeWhile (fun e => !terminates e) ++ live.dropWhile (fun e => !terminates e) :=
    (List.takeWhile_append_dropWhile).symm
  have hann := (delivery_run f evs init).2.1
  unfold connectedLog
  simp only
  generalize live.takeWhile (fun e => !terminates e) = before at *
  generalize live.dropWhile (fun e => !terminates e) = rest at *
  have rB := live_run_exact f before sC rfl hbefore
  have hrun : runFrom f init evs =
      ((runFrom f (runFrom f sC before).1 rest).1,
       sendErrs hs ++ [.wrote .verack, .wrote .hsPing, .emitConnected] ++
         (before.flatMap liveOut ++ (runFrom f (runFrom f sC before).1 rest).2)) := by
    rw [hev, runFrom_append, rH, hsplit]
    simp only
    rw [runFrom_append, rB.1]
  obtain ⟨t1, t2, t3, t4, t5, t6⟩ := rest_run f _ rest (inv_runFrom f before sC rfl) rB.2.1 (by rw [rB.2.2]; rfl) hrestc
  have hP := connected_outputs_proj hs before (runFrom f (runFrom f sC before).1 rest).2 hbefore
  simp only at hP
  rw [hrun] at hann
  have hdel : delivered (sendErrs hs ++ [Output.wrote .verack, .wrote .hsPing, .emitConnected] ++
      (before.flatMap liveOut ++ (runFrom f (runFrom f sC before).1 rest).2)) = before.filterMap frameOf := by
    refine (show delivered _ = delivered (Output.wrote .version :: _) from rfl).trans (hP.2.2.2.trans ?_)
    rw [t3, List.append_nil]
  simp only at hann
  rw [hdel] at hann
  simp only [observe, run, Log.mk.injEq, hrun]
  refine ⟨?_, ?_, ?_, t5, ?_, ?_, ?_, t6⟩
  · rw [hP.1, t1]
  · rw [hP.2.1, t2]; simp
  · rw [hP.2.2.1, t4]
    simp only [List.append_assoc]
    rcases rest with _ | ⟨t, _⟩
    · rfl
    · cases t <;> rfl
  · have := congrArg (·.1) hann; simpa [annState, annOf, init] using this
  · have := congrArg (·.2.1) hann; simpa [annState, annOf, init] using this
  · have := congrArg (·.2.2) hann; simpa [annState, annOf, init] using this

theorem hs_fault_run_exact (f : VersionInfo → Bool) (pre : List Event) (e : Event) (s : State) (h : invB s = true)
    (hp : inHandshake s = true) (hd : s.discFired = false) (hl : ∀ x ∈ pre, isSend x = true)
    (he : e.isLocal = false) (hf : remoteFault f s e = true) :
    (runFrom f s (pre ++ [e])).2 = sendErrs (pre ++ [e]) ++ [.emitDisconnected] ∧
    quiet (runFrom f s (pre ++ [e])).1 = true ∧ annState (runFrom f s (pre ++ [e])).1 = annState s := by
  rw [runFrom_append, hs_sends_run f pre s h hp hl]
  simp only [runFrom_cons, runFrom_nil, List.append_nil, step_of_handshakeFault f hp hf, sendErrs_append,
    sendErrs_remote he]
  exact ⟨by simp [threadFail, disconnect, hd], quiet_threadFail s, rfl⟩

theorem illegal_add (a b : Nat) : illegal a ++ illegal b = illegal (a + b) := by
  simp [illegal, List.replicate_append_replicate]

theorem unconnected_observe (f : VersionInfo → Bool) (evs : List Event) (s : State) (mid : List Output)
    (a b : List Event) (hsc : sendCalls evs = sendCalls a + sendCalls b)
    (hrun : runFrom f init evs = (s, sendErrs a ++ mid ++ sendErrs b))
    (hmid : mid = [] ∨ mid = [.emitDisconnected]) (hann : annState s = annState init)
    (hflag : s.flag = false) (hcl : s.closed = !mid.isEmpty) :
    observe (run f evs) = unconnectedLog evs (!mid.isEmpty) := by
  have ha := sendErrs_silent a
  have hb := sendErrs_silent b
  simp only [observe, run, unconnectedLog, hrun, Log.mk.injEq]
  have hA : s.minfee = 0 ∧ s.sendheaders = false ∧ s.sendcmpct = false := by
    simp only [annState, init, Prod.mk.injEq] at hann
    exact hann
  refine ⟨?_, ?_, ?_, hflag, hA.1, hA.2.1, hA.2.2, hcl⟩
  · rw [(proj_wrote _ _).1, obsOf_append, obsOf_append, ha.2.2.2.2.2, hb.2.2.2.2.2]
    rcases hmid with rfl | rfl <;> simp [obsOf]
  · rw [(proj_wrote _ _).2.1, wires_append, wires_append, ha.2.1, hb.2.1]
    rcases hmid with rfl | rfl <;> simp [wires]
  · rw [(proj_wrote _ _).2.2.1, sendResults_append, sendResults_append, sendErrs_sendResults, sendErrs_sendResults, hsc, ← illegal_add]
    rcases hmid with rfl | rfl <;> simp [sendResults, illegal]

theorem hs_fault_observe (f : VersionInfo → Bool) (evs head pre tail : List Event) (e : Event) (s : State)
    (hev : evs = head ++ (pre ++ [e]) ++ tail) (hhead : runFrom f init head = (s, sendErrs head))
    (hp : inHandshake s = true) (hd : s.discFired = false) (hann : annState s = annState init)
    (hl : ∀ x ∈ pre, isSend x = true) (he : e.isLocal = false) (hf : remoteFault f s e = true) :
    observe (run f evs) = unconnectedLog evs true := by
  have hinv : invB s = true := by simpa [hhead] using inv_runFrom f head init inv_init
  have r := hs_fault_run_exact f pre e s hinv hp hd hl he hf
  have rq := quiet_run f tail _ r.2.1
  have hrun : runFrom f init evs = ((runFrom f (runFrom f s (pre ++ [e])).1 tail).1,
      sendErrs (head ++ (pre ++ [e])) ++ [.emitDisconnected] ++ sendErrs tail) := by
    rw [hev, runFrom_append, runFrom_append, hhead]
    simp only
    rw [r.1, rq.2.1]
    simp only [sendErrs_append, List.append_assoc]
  have hinvF := inv_runFrom f evs init inv_init
  rw [hrun] at hinvF
  have hq := quiet_closed _ hinvF rq.1
  refine unconnected_observe f evs _ [.emitDisconnected] (head ++ (pre ++ [e])) tail ?_ hrun
    (Or.inr rfl) ?_ hq.2 (by simpa using hq.1)
  · rw [hev, sendCalls_append]
  · rw [rq.2.2, r.2.2, hann]

theorem sendCalls_remote (e : Event) (h : e.isLocal = false) : sendCalls [e] = 0 := by
  cases e <;> simp_all [sendCalls, Event.isLocal]

theorem init_props : inHandshake init = true ∧ init.discFired = false ∧ init.closed = false ∧ init.flag = false :=
  ⟨rfl, rfl, rfl, rfl⟩

theorem matches_unconnected (f : VersionInfo → Bool) (evs : List Event) (log : Log)
    (hah : afterHandshake f evs = none) (h : expected f evs = some log) :
    observe (run f evs) = log := by
  unfold expected at h
  rw [hah] at h
  simp only at h
  let sV : State := { init with phase := .awaitVerack }
  cases hpend : handshakePending f evs with
  | true =>
    rw [hpend] at h
    simp only [if_true] at h
    cases hd : hasLocalDisconnect evs with
    | true => rw [hd] at h; simp at h
    | false =>
    rw [hd] at h
    simp only [Bool.false_eq_true, if_false, Option.some.injEq] at h
    subst h
    unfold handshakePending at hpend
    cases h1 : nextRemote evs with
    | none =>
      have hl := nextRemote_none_local h1
      have hs : ∀ x ∈ evs, isSend x = true := fun x hx => no_disc_mem hd hx (hl x hx)
      have r := hs_sends_run f evs init inv_init rfl hs
      exact unconnected_observe f evs init [] evs [] (by simp [sendCalls]) (by rw [r]; simp [sendErrs]) (Or.inl rfl) rfl rfl rfl
    | some p =>
      obtain ⟨e, rest⟩ := p
      rw [h1] at hpend
      cases e with
      | remoteFrame m =>
        simp only [Bool.and_eq_true, Option.isNone_iff_eq_none] at hpend
        obtain ⟨-, -, pre1, hev, hl1⟩ := nextRemote_some h1
        have hl2 := nextRemote_none_local hpend.2
        have hs1 : ∀ x ∈ pre1, isSend x = true := fun x hx => no_disc_mem hd (by rw [hev]; simp [hx]) (hl1 x hx)
        have hs2 : ∀ x ∈ rest, isSend x = true := fun x hx => no_disc_mem hd (by rw [hev]; simp [hx]) (hl2 x hx)
        have r : runFrom f init evs = (sV, sendErrs pre1 ++ [] ++ sendErrs rest) := by
          rw [hev, runFrom_append, hs_sends_run f pre1 init inv_init rfl hs1]
          simp only [runFrom_cons, step_frame_awaitVersion f (s := init) rfl, hpend.1, if_true]
          rw [hs_sends_run f rest _ rfl rfl hs2]
          simp [sV]
        refine unconnected_observe f evs sV [] pre1 rest ?_ r (Or.inl rfl) rfl rfl rfl
        rw [hev, sendCalls_append]
        simp [sendCalls]
      | _ => simp at hpend
  | false =>
    rw [hpend] at h
    simp only [Bool.false_eq_true, if_false] at h
    cases hd : hasLocalDisconnect (brokenPart f evs) with
    | true => rw [hd] at h; simp at h
    | false =>
    rw [hd] at h
    simp only [Bool.false_eq_true, if_false, Option.some.injEq] at h
    subst h
    unfold handshakePending at hpend
    unfold afterHandshake at hah
    unfold brokenPart at hd
    cases h1 : nextRemote evs with
    | none => rw [h1] at hpend; simp at hpend
    | some p =>
      obtain ⟨e, tail⟩ := p
      obtain ⟨-, he, pre1, hev, hl1⟩ := nextRemote_some h1
      cases hva : versionAccepted f evs with
      | none =>
        rw [hva] at hd
        simp only [h1, Option.map_some, Option.getD_some] at hd
        have hbad : handshakePart evs tail = pre1 ++ [e] := by
          rw [hev]
          have : pre1 ++ e :: tail = (pre1 ++ [e]) ++ tail := by simp
          rw [this]; exact handshakePart_append _ _
        rw [hbad] at hd
        have hs1 : ∀ x ∈ pre1, isSend x = true := fun x hx => no_disc_mem hd (by simp [hx]) (hl1 x hx)
        have hf : remoteFault f init e = true := by
          unfold versionAccepted at hva
          rw [h1] at hva
          cases e with
          | remoteFrame m =>
            by_cases hv : acceptable f m = true
            · simp [hv] at hva
            · simpa [remoteFault, init] using hv
          | localSend | localDisconnect => cases he
          | _ => rfl
        exact hs_fault_observe f evs [] pre1 tail e init (by rw [hev]; simp) rfl rfl rfl rfl hs1 he hf
      | some rest =>
        have hrest : rest = tail ∧ ∃ vm, e = .remoteFrame vm ∧ acceptable f vm = true := by
          unfold versionAccepted at hva
          rw [h1] at hva
          cases e with
          | remoteFrame vm =>
            simp only at hva
            by_cases hv : acceptable f vm = true
            · simp only [hv, if_true, Option.some.injEq] at hva
              exact ⟨hva.symm, vm, rfl, hv⟩
            · simp [hv] at hva
          | _ => simp at hva
        obtain ⟨rfl, vm, rfl, hv⟩ := hrest
        rw [hva] at hah hd
        simp only at hah hd
        rw [h1] at hpend
        simp only [hv, Bool.true_and] at hpend
        cases h2 : nextRemote rest with
        | none => rw [h2] at hpend; simp at hpend
        | some q =>
          obtain ⟨e2, tail2⟩ := q
          obtain ⟨-, he2, pre2, hev2, hl2⟩ := nextRemote_some h2
          simp only [h2, Option.map_some, Option.getD_some] at hd
          have hev' : evs = (pre1 ++ [.remoteFrame vm]) ++ (pre2 ++ [e2]) ++ tail2 := by rw [hev, hev2]; simp
          have hbad : handshakePart evs tail2 = (pre1 ++ [.remoteFrame vm]) ++ (pre2 ++ [e2]) := by
            rw [hev']; exact handshakePart_append _ _
          rw [hbad] at hd
          have hs1 : ∀ x ∈ pre1, isSend x = true := fun x hx => no_disc_mem hd (by simp [hx]) (hl1 x hx)
          have hs2 : ∀ x ∈ pre2, isSend x = true := fun x hx => no_disc_mem hd (by simp [hx]) (hl2 x hx)
          have hf : remoteFault f sV e2 = true := by
            rw [h2] at hah
            cases e2 with
            | remoteFrame am =>
              simp only at hah
              by_cases hak : isVerack am = true
              · simp [hak] at hah
              · simp [remoteFault, sV, hak]
            | localSend | localDisconnect => cases he2
            | _ => rfl
          have r1 : runFrom f init (pre1 ++ [.remoteFrame vm]) = (sV, sendErrs (pre1 ++ [.remoteFrame vm])) := by
            rw [runFrom_append, hs_sends_run f pre1 init inv_init rfl hs1]
            simp [runFrom_cons, runFrom_nil, step_frame_awaitVersion f (s := init) rfl, hv, sV, sendErrs]
          exact hs_fault_observe f evs _ pre2 tail2 e2 sV hev' r1 rfl rfl rfl hs2 he2 hf

theorem model_matches_reference (f : VersionInfo → Bool) (evs : List Event) (log : Log)
    (h : expected f evs = some log) : observe (run f evs) = log := by
  cases hah : afterHandshake f evs with
  | some live => exact matches_connected f evs live log hah h
  | none => exact matches_unconnected f evs log hah h

end CG.Proofs.Peer
