import CG.Model.TxChecker
import CG.Proofs.InterpTotal
import CG.Proofs.Templates
import CG.Base.Lemmas
/-!
Helper lemmas for `CG.Props.TxChecker`.

A simulation lemma for the interpreter model: if the verdicts of a checker do not depend on
WHICH checker state satisfying an invariant `Inv` it is asked in (and `Inv` is preserved), then two
runs of `coreEval` that start in two `Inv` states produce the same stacks / offset / error / panic and
end in `Inv` states.  (The checker state of the real `TransactionChecker` is the signature-hash cache;
`Inv` is C02's `CacheOk`.)

The same for the two-phase input check; the input loop of `Tx::validate` follows in `TxCheckerCache`.
-/
namespace CG.Proofs.TxChecker
open CG CG.Model.Interp CG.Model.ScriptNum CG.Model.TxChecker

variable {σ : Type}

/-- the verdicts of `C` are the same in all states satisfying `Inv`, and `Inv` is preserved -/
structure Insensitive (C : Checker σ) (Inv : σ → Prop) : Prop where
  sig : ∀ c c' sg pk scr, Inv c → Inv c' → (C.checkSig c sg pk scr).1 = (C.checkSig c' sg pk scr).1
  inv : ∀ c sg pk scr, Inv c → Inv (C.checkSig c sg pk scr).2
  lt : ∀ c c' t, C.checkLocktime c t = C.checkLocktime c' t
  sq : ∀ c c' t, C.checkSequence c t = C.checkSequence c' t

def setChk (st : St σ) (c : σ) : St σ := { st with chk := c }

@[simp] theorem setChk_stack (st : St σ) (c : σ) : (setChk st c).stack = st.stack := rfl
@[simp] theorem setChk_alt (st : St σ) (c : σ) : (setChk st c).alt = st.alt := rfl
@[simp] theorem setChk_branch (st : St σ) (c : σ) : (setChk st c).branch = st.branch := rfl
@[simp] theorem setChk_checkIndex (st : St σ) (c : σ) : (setChk st c).checkIndex = st.checkIndex := rfl
@[simp] theorem setChk_chk (st : St σ) (c : σ) : (setChk st c).chk = c := rfl
@[simp] theorem setChk_setChk (st : St σ) (c d : σ) : setChk (setChk st c) d = setChk st d := rfl
theorem setChk_self (st : St σ) : setChk st st.chk = st := rfl

def reChk (c : σ) : Outcome (Bool × St σ) → Outcome (Bool × St σ)
  | .ok (b, s) => .ok (b, setChk s c)
  | .err e => .err e
  | .panic p => .panic p

def usesChecker : Op → Bool
  | .checksig | .checksigverify | .checkmultisig | .checkmultisigverify | .cltv | .csv => true
  | _ => false

def StepRel (Inv : σ → Prop) : Outcome (Bool × St σ) → Outcome (Bool × St σ) → Prop
  | .ok (b, s), .ok (b', s') => b = b' ∧ s' = setChk s s'.chk ∧ Inv s.chk ∧ Inv s'.chk
  | .err e, .err e' => e = e'
  | .panic p, .panic p' => p = p'
  | _, _ => False

theorem reChk_checkSize (c : σ) (n : Nat) (s : Stack) (k : Outcome (Bool × St σ)) :
    reChk c (checkSize n s k) = checkSize n s (reChk c k) := by
  unfold checkSize
  split <;> rfl

theorem bitwise_setChk (st : St σ) (c : σ) (f : UInt8 → UInt8 → UInt8) :
    bitwise (setChk st c) f = reChk c (bitwise st f) := by
  obtain ⟨stack, alt, branch, ci, chk⟩ := st
  simp only [bitwise, setChk, reChk_checkSize]
  rcases stack with _ | ⟨a, _ | ⟨b, r⟩⟩
  · rfl
  · rfl
  · simp only [popU, apply_ite (reChk c)]
    rfl

theorem binaryBig_setChk (st : St σ) (c : σ) (f : Int → Int → Outcome Bytes) :
    binaryBig (setChk st c) f = reChk c (binaryBig st f) := by
  obtain ⟨stack, alt, branch, ci, chk⟩ := st
  rcases stack with _ | ⟨a, _ | ⟨b, r⟩⟩
  · rfl
  · rfl
  · simp only [binaryBig, setChk, popBig]
    cases f (decodeBig b) (decodeBig a) <;> rfl

/-- Every opcode that does not consult the checker commutes with a change of the checker state.
    Once the items an arm inspects are constructors, both sides compute to the same value; where an arm
    branches on a test that does not reduce, `reChk` is first moved below the test. -/
theorem exec_setChk (H : Hashes) (C : Checker σ) (pg : Bool) (script : Bytes) (i : Nat) (op : Op)
    (st : St σ) (c' : σ) (h : usesChecker op = false) :
    exec H C pg script i op (setChk st c') = reChk c' (exec H C pg script i op st) := by
  obtain ⟨stack, alt, branch, ci, chk⟩ := st
  cases op
  case checksig | checksigverify | checkmultisig | checkmultisigverify | cltv | csv => cases h
  case nop | codesep | bad => rfl
  case return_ => cases pg <;> rfl
  case fromalt => cases alt <;> rfl
  case else_ | endif => cases branch <;> rfl
  case drop | dup | toalt | invert | bin2num | ripemd160 | sha1 | sha256 | hash160 | hash256
      | add1 | sub1 | negate | abs | not_ | notequal0 | mul2 | div2 =>
    cases stack <;> rfl
  case nip | over | swap | tuck | drop2 | dup2 | cat | equal
      | add | sub | mul | booland | boolor | numequal | numnotequal | lt | gt | le | ge | min | max =>
    rcases stack with _ | ⟨a, _ | ⟨b, r⟩⟩ <;> rfl
  case rot | dup3 | within =>
    rcases stack with _ | ⟨a, _ | ⟨b, _ | ⟨c, r⟩⟩⟩ <;> rfl
  case over2 | swap2 =>
    rcases stack with _ | ⟨a, _ | ⟨b, _ | ⟨c, _ | ⟨d, r⟩⟩⟩⟩ <;> rfl
  case rot2 =>
    rcases stack with _ | ⟨a, _ | ⟨b, _ | ⟨c, _ | ⟨d, _ | ⟨e, _ | ⟨f, r⟩⟩⟩⟩⟩⟩ <;> rfl
  case push | pushdata1 | pushdata2 | pushdata4 =>
    simp only [exec, setChk, pushSlice, apply_ite (reChk c')]
    rfl
  case pick | roll =>
    simp only [exec, setChk]
    rcases popNum stack with ⟨n, r⟩ | e | p
    · simp only [apply_ite (reChk c'), reChk_checkSize]
      cases r[n.toNat]? <;> rfl
    · rfl
    · rfl
  case split =>
    simp only [exec, setChk, reChk_checkSize]
    rcases popNum stack with ⟨n, _ | ⟨x, r⟩⟩ | e | p
    all_goals simp only [popU, apply_ite (reChk c')]
    all_goals rfl
  case and_ | or_ | xor_ => exact bitwise_setChk _ c' _
  case div | mod_ => exact binaryBig_setChk _ c' _
  -- the other arms: after splitting on every match and test, both sides are the same value on each leaf
  all_goals
    simp only [exec, setChk, reChk_checkSize]
    repeat' split
    all_goals rfl

/-- … and leaves it untouched: take the state's own checker state for `c'` above. -/
theorem exec_chk_eq (H : Hashes) (C : Checker σ) (pg : Bool) (script : Bytes) (i : Nat) (op : Op)
    (st : St σ) (h : usesChecker op = false) (b : Bool) (s : St σ)
    (hs : exec H C pg script i op st = .ok (b, s)) : s.chk = st.chk := by
  have e := exec_setChk H C pg script i op st st.chk h
  rw [setChk_self, hs] at e
  exact congrArg (fun r => match r with | .ok (_, s') => s'.chk | _ => st.chk) e

theorem stepRel_reChk {Inv : σ → Prop} {r : Outcome (Bool × St σ)} {c c' : σ}
    (h : ∀ b s, r = .ok (b, s) → s.chk = c) (hc : Inv c) (hc' : Inv c') :
    StepRel Inv r (reChk c' r) := by
  cases r with
  | ok bs =>
    obtain ⟨b, s⟩ := bs
    exact ⟨rfl, rfl, by rw [h b s rfl]; exact hc, hc'⟩
  | err e => exact rfl
  | panic p => exact rfl

theorem pair_rel_cases {α : Type} {Inv : σ → Prop} {x y : α × σ} (e : x.1 = y.1) (i1 : Inv x.2)
    (i2 : Inv y.2) : ∃ o d d', x = (o, d) ∧ y = (o, d') ∧ Inv d ∧ Inv d' :=
  ⟨x.1, x.2, y.2, rfl, by rw [e], i1, i2⟩

theorem msLoop_rel {C : Checker σ} {Inv : σ → Prop} (hC : Insensitive C Inv) (scr : Bytes) :
    ∀ (keys sigs : List Bytes) (c c' : σ), Inv c → Inv c' →
      (msLoop C scr c sigs keys).1 = (msLoop C scr c' sigs keys).1 ∧
      Inv (msLoop C scr c sigs keys).2 ∧ Inv (msLoop C scr c' sigs keys).2 := by
  intro keys
  induction keys with
  | nil => intro sigs c c' hc hc'; cases sigs <;> simp [msLoop, hc, hc']
  | cons k ks ih =>
    intro sigs c c' hc hc'
    cases sigs with
    | nil => simp [msLoop, hc, hc']
    | cons s ss =>
      obtain ⟨o, d, d', h1, h2, i1, i2⟩ := pair_rel_cases (hC.sig c c' s k scr hc hc')
        (hC.inv c s k scr hc) (hC.inv c' s k scr hc')
      unfold msLoop
      rw [h1, h2]
      cases o with
      | ok b => cases b <;> exact ih _ _ _ i1 i2
      | err e => exact ⟨rfl, i1, i2⟩
      | panic p => exact ⟨rfl, i1, i2⟩

theorem checkMultisig_rel {C : Checker σ} {Inv : σ → Prop} (hC : Insensitive C Inv) (c c' : σ)
    (hc : Inv c) (hc' : Inv c') (stack : Stack) (sub : Bytes) :
    (checkMultisig C c stack sub).1 = (checkMultisig C c' stack sub).1 ∧
    Inv (checkMultisig C c stack sub).2 ∧ Inv (checkMultisig C c' stack sub).2 := by
  unfold checkMultisig
  cases popNum stack with
  | err e => exact ⟨rfl, hc, hc'⟩
  | panic p => exact ⟨rfl, hc, hc'⟩
  | ok ts =>
    obtain ⟨total, s1⟩ := ts
    simp only []
    by_cases h1 : total < 0
    · simp [h1, hc, hc']
    simp only [h1, if_false]
    by_cases h2 : s1.length < total.toNat
    · simp [h2, hc, hc']
    simp only [h2, if_false]
    cases popNum (List.drop total.toNat s1) with
    | err e => exact ⟨rfl, hc, hc'⟩
    | panic p => exact ⟨rfl, hc, hc'⟩
    | ok rs =>
      obtain ⟨required, s3⟩ := rs
      simp only []
      by_cases h3 : required < 0 ∨ required > total
      · simp [h3, hc, hc']
      simp only [h3, if_false]
      by_cases h4 : s3.length < required.toNat
      · simp [h4, hc, hc']
      simp only [h4, if_false]
      by_cases h5 : (List.drop required.toNat s3).length < 1
      · simp only [h5, if_true]; exact ⟨trivial, hc, hc'⟩
      simp only [h5, if_false]
      obtain ⟨e, i1, i2⟩ := msLoop_rel hC
        (List.foldl (fun acc sg => if prefork sg = true then removeSig sg acc else acc) sub
          (List.take required.toNat s3))
        (List.take total.toNat s1) (List.take required.toNat s3) c c' hc hc'
      obtain ⟨o, d, d', h1, h2, i1, i2⟩ := pair_rel_cases e i1 i2
      rw [h1, h2]
      cases o <;> exact ⟨rfl, i1, i2⟩

@[simp] theorem stepRel_err {Inv : σ → Prop} (e e' : String) :
    StepRel Inv (.err e) (.err e') ↔ e = e' := Iff.rfl
@[simp] theorem stepRel_panic {Inv : σ → Prop} (p p' : String) :
    StepRel Inv (.panic p) (.panic p') ↔ p = p' := Iff.rfl
@[simp] theorem stepRel_scriptErr {Inv : σ → Prop} : StepRel Inv (scriptErr : Outcome (Bool × St σ)) scriptErr :=
  rfl
@[simp] theorem stepRel_ok {Inv : σ → Prop} (b b' : Bool) (s s' : St σ) :
    StepRel Inv (.ok (b, s)) (.ok (b', s')) ↔ (b = b' ∧ s' = setChk s s'.chk ∧ Inv s.chk ∧ Inv s'.chk) := Iff.rfl

theorem sigCheck_rel {C : Checker σ} {Inv : σ → Prop} (hC : Insensitive C Inv) (script : Bytes) (st : St σ)
    (c' : σ) (v : Bool) (hc : Inv st.chk) (hc' : Inv c') :
    StepRel Inv (sigCheck C script st v) (sigCheck C script (setChk st c') v) := by
  obtain ⟨stack, alt, branch, ci, chk⟩ := st
  simp only at hc
  rcases stack with _ | ⟨pk, _ | ⟨sg, r2⟩⟩
  · exact stepRel_scriptErr
  · exact stepRel_scriptErr
  simp only [sigCheck, checkSize, setChk, popU, List.length_cons]
  have a2 : ¬ (r2.length + 1 + 1 < 2) := by omega
  simp only [a2, if_false]
  by_cases hci : ci > script.length
  · simp only [hci, if_true]; exact rfl
  simp only [hci, if_false]
  obtain ⟨o, d, d', h1, h2, i1, i2⟩ := pair_rel_cases
    (hC.sig chk c' sg pk (cleaned script ci sg) hc hc') (hC.inv chk sg pk (cleaned script ci sg) hc)
    (hC.inv c' sg pk (cleaned script ci sg) hc')
  rw [h1, h2]
  cases o with
  | ok b =>
    simp only []
    cases v
    · exact ⟨rfl, rfl, i1, i2⟩
    · cases b
      · exact rfl
      · exact ⟨rfl, rfl, i1, i2⟩
  | err e => exact rfl
  | panic p => exact rfl

theorem multisigOp_rel {C : Checker σ} {Inv : σ → Prop} (hC : Insensitive C Inv) (script : Bytes) (st : St σ)
    (c' : σ) (v : Bool) (hc : Inv st.chk) (hc' : Inv c') :
    StepRel Inv (multisigOp C script st v) (multisigOp C script (setChk st c') v) := by
  obtain ⟨stack, alt, branch, ci, chk⟩ := st
  simp only at hc
  simp only [multisigOp, setChk]
  by_cases hci : ci > script.length
  · simp only [hci, if_true]; exact rfl
  simp only [hci, if_false]
  obtain ⟨e, i1, i2⟩ := checkMultisig_rel hC chk c' hc hc' stack (List.drop ci script)
  obtain ⟨o, d, d', h1, h2, i1, i2⟩ := pair_rel_cases e i1 i2
  rw [h1, h2]
  cases o with
  | ok bs =>
    obtain ⟨b, s'⟩ := bs
    simp only []
    cases v
    · exact ⟨rfl, rfl, i1, i2⟩
    · cases b
      · exact rfl
      · exact ⟨rfl, rfl, i1, i2⟩
  | err e => exact rfl
  | panic p => exact rfl

/-- the arm shared by OP_CHECKLOCKTIMEVERIFY and OP_CHECKSEQUENCEVERIFY, `f` the checker's test.  `arm` is
    the text of that arm of `exec` (`Model/Interp.lean`), so that `exec_rel` can apply the lemma as it is. -/
theorem timelock_rel {Inv : σ → Prop} (f : σ → Int → Outcome Bool) (hf : ∀ c c' t, f c t = f c' t)
    (pg : Bool) (st : St σ) (c' : σ) (hc : Inv st.chk) (hc' : Inv c') :
    let arm := fun st : St σ =>
      if pg then
        match popNum st.stack with
        | .err e => .err e | .panic p => .panic p
        | .ok (t, r) => match f st.chk t with
          | .ok b => if b then .ok (false, { st with stack := r }) else scriptErr
          | .err e => .err e | .panic p => .panic p
      else .ok (false, { st with stack := st.stack })
    StepRel Inv (arm st) (arm (setChk st c')) := by
  obtain ⟨stack, alt, branch, ci, chk⟩ := st
  simp only at hc
  simp only [setChk]
  cases pg
  · exact ⟨rfl, rfl, hc, hc'⟩
  · simp only [if_true]
    cases popNum stack with
    | err e => exact rfl
    | panic p => exact rfl
    | ok tr =>
      obtain ⟨t, r⟩ := tr
      simp only []
      rw [hf c' chk t]
      cases f chk t with
      | ok b =>
        cases b
        · exact rfl
        · exact ⟨rfl, rfl, hc, hc'⟩
      | err e => exact rfl
      | panic p => exact rfl

theorem StepRel.cases {Inv : σ → Prop} {x y : Outcome (Bool × St σ)} (h : StepRel Inv x y) :
    (∃ b s s', x = .ok (b, s) ∧ y = .ok (b, s') ∧ s' = setChk s s'.chk ∧ Inv s.chk ∧ Inv s'.chk) ∨
    (∃ e, x = .err e ∧ y = .err e) ∨ (∃ p, x = .panic p ∧ y = .panic p) := by
  rcases x with ⟨b, s⟩ | e | p <;> rcases y with ⟨b', s'⟩ | e' | p'
  case ok.ok =>
    obtain ⟨rfl, hs, i1, i2⟩ := h
    exact .inl ⟨b, s, s', rfl, rfl, hs, i1, i2⟩
  case err.err =>
    obtain rfl : e = e' := h
    exact .inr (.inl ⟨e, rfl, rfl⟩)
  case panic.panic =>
    obtain rfl : p = p' := h
    exact .inr (.inr ⟨p, rfl, rfl⟩)
  all_goals exact h.elim

theorem exec_rel {C : Checker σ} {Inv : σ → Prop} (hC : Insensitive C Inv) (H : Hashes) (pg : Bool)
    (script : Bytes) (i : Nat) (op : Op) (st : St σ) (c' : σ) (hc : Inv st.chk) (hc' : Inv c') :
    StepRel Inv (exec H C pg script i op st) (exec H C pg script i op (setChk st c')) := by
  by_cases hu : usesChecker op = false
  · rw [exec_setChk H C pg script i op st c' hu]
    exact stepRel_reChk (fun b s hs => exec_chk_eq H C pg script i op st hu b s hs) hc hc'
  · cases op
    case checksig => exact sigCheck_rel hC script st c' false hc hc'
    case checksigverify => exact sigCheck_rel hC script st c' true hc hc'
    case checkmultisig => exact multisigOp_rel hC script st c' false hc hc'
    case checkmultisigverify => exact multisigOp_rel hC script st c' true hc hc'
    case cltv => exact timelock_rel C.checkLocktime hC.lt pg st c' hc hc'
    case csv => exact timelock_rel C.checkSequence hC.sq pg st c' hc hc'
    all_goals exact absurd rfl hu

abbrev RunRel (Inv : σ → Prop) : Outcome (St σ × Nat) → Outcome (St σ × Nat) → Prop :=
  Outcome.Rel fun x y => x.2 = y.2 ∧ y.1 = setChk x.1 y.1.chk ∧ Inv x.1.chk ∧ Inv y.1.chk

theorem finish_rel {Inv : σ → Prop} (st : St σ) (c' : σ) (i : Nat) (hc : Inv st.chk) (hc' : Inv c') :
    RunRel Inv (finish st i) (finish (setChk st c') i) := by
  unfold finish
  rw [setChk_branch]
  by_cases hb : st.branch.isEmpty = true
  · rw [if_pos hb, if_pos hb]; exact .ok ⟨rfl, rfl, hc, hc'⟩
  · rw [if_neg hb, if_neg hb]; exact .err _

theorem runWith_rel {Inv : σ → Prop} (ex : Nat → Op → St σ → Outcome (Bool × St σ))
    (hex : ∀ i op st c', Inv st.chk → Inv c' → StepRel Inv (ex i op st) (ex i op (setChk st c')))
    (script : Bytes) (brk : Option Nat) :
    ∀ (fuel i : Nat) (st : St σ) (c' : σ), Inv st.chk → Inv c' →
      RunRel Inv (runWith ex script brk fuel i st) (runWith ex script brk fuel i (setChk st c')) := by
  intro fuel
  induction fuel with
  | zero => intro i st c' _ _; exact .panic _
  | succ f ih =>
    intro i st c' hc hc'
    simp only [runWith_succ, loopBody]
    have hadv : advance script (setChk st c') i = advance script st i := rfl
    rw [hadv]
    by_cases hlt : i < script.length
    · simp only [hlt, if_true]
      generalize advance script st i = i0
      by_cases hge : i0 ≥ script.length
      · simp only [hge, if_true]
        exact finish_rel st c' i0 hc hc'
      · simp only [hge, if_false]
        by_cases hb : brkHit brk i0 = true
        · simp only [hb, if_true]
          exact finish_rel st c' i0 hc hc'
        · simp only [hb]
          rcases (hex i0 (decodeOp (script.getD i0 0)) st c' hc hc').cases with
            ⟨b, s, s', h1, h2, hs', i1, i2⟩ | ⟨e, h1, h2⟩ | ⟨p, h1, h2⟩
          · rw [h1, h2, hs']
            cases b
            · exact ih _ s s'.chk i1 i2
            · exact finish_rel s s'.chk i0 i1 i2
          · rw [h1, h2]
            exact .err _
          · rw [h1, h2]
            exact .panic _
    · simp only [hlt, if_false]
      exact finish_rel st c' i hc hc'

abbrev EvalRel (Inv : σ → Prop) : Outcome (EvalResult σ) → Outcome (EvalResult σ) → Prop :=
  Outcome.Rel fun r r' => r.stack = r'.stack ∧ r.alt = r'.alt ∧ r.pos = r'.pos ∧ Inv r.chk ∧ Inv r'.chk

theorem coreEval_rel {C : Checker σ} {Inv : σ → Prop} (hC : Insensitive C Inv) (H : Hashes) (c c' : σ)
    (hc : Inv c) (hc' : Inv c') (script : Bytes) (flags : Nat) (startAt breakAt : Option Nat)
    (stack alt : Option Stack) :
    EvalRel Inv (coreEval H C c script flags startAt breakAt stack alt)
      (coreEval H C c' script flags startAt breakAt stack alt) := by
  unfold coreEval run
  simp only []
  have key := runWith_rel (Inv := Inv) (exec H C (decide (flags % 2 = 1)) script)
    (fun i op st c' h1 h2 => exec_rel hC H _ script i op st c' h1 h2) script breakAt
    (script.length + 1) (startAt.getD 0)
    { stack := stack.getD [], alt := alt.getD [], branch := [], checkIndex := 0, chk := c } c' hc hc'
  simp only [setChk] at key
  refine key.elim ?_ (fun e => .err e) (fun p => .panic p)
  rintro ⟨s, i⟩ ⟨s', i'⟩ ⟨hi, hs, i1, i2⟩
  dsimp only at hi hs i1 i2
  cases hi
  rw [hs]
  exact .ok ⟨rfl, rfl, rfl, i1, i2⟩

theorem coreEval_inv {C : Checker σ} {Inv : σ → Prop} (hC : Insensitive C Inv) (H : Hashes) (c : σ)
    (hc : Inv c) (script : Bytes) (flags : Nat) (startAt breakAt : Option Nat) (stack alt : Option Stack)
    (r : EvalResult σ) (h : coreEval H C c script flags startAt breakAt stack alt = .ok r) : Inv r.chk := by
  have := coreEval_rel hC H c c hc hc script flags startAt breakAt stack alt
  rw [h] at this
  cases this with
  | ok h' => exact h'.2.2.2.1

abbrev VerdictRel (Inv : σ → Prop) : Outcome σ → Outcome σ → Prop :=
  Outcome.Rel fun d d' => Inv d ∧ Inv d'

theorem validateInputSt_rel {C : Checker σ} {Inv : σ → Prop} (hC : Insensitive C Inv) (H : Hashes) (c c' : σ)
    (hc : Inv c) (hc' : Inv c') (unlock lock : Bytes) (flags : Nat) :
    VerdictRel Inv (validateInputSt H C c unlock lock flags) (validateInputSt H C c' unlock lock flags) := by
  unfold validateInputSt
  refine (coreEval_rel hC H c c' hc hc' unlock flags none none none none).elim ?_ (fun e => .err e)
    (fun p => .panic p)
  rintro r1 r1' ⟨hs, -, -, i1, i2⟩
  simp only []
  rw [← hs]
  refine (coreEval_rel hC H r1.chk r1'.chk i1 i2 lock flags none none (some r1.stack) none).elim ?_
    (fun e => .err e) (fun p => .panic p)
  rintro r2 r2' ⟨hs2, -, -, j1, j2⟩
  simp only []
  rw [← hs2]
  cases r2.stack with
  | nil => exact .err _
  | cons t rest =>
    simp only []
    split
    · exact .ok ⟨j1, j2⟩
    · exact .err _

/-- `validateInputSt` is `validateInput` (C03's model) plus the final checker state -/
theorem validateInput_eq (H : Hashes) (C : Checker σ) (c : σ) (unlock lock : Bytes) (flags : Nat) :
    CG.Model.TxScript.validateInput H C c unlock lock flags =
      match validateInputSt H C c unlock lock flags with
      | .ok _ => .ok ()
      | .err e => .err e
      | .panic p => .panic p := by
  unfold CG.Model.TxScript.validateInput validateInputSt
  cases coreEval H C c unlock flags none none none none with
  | err e => rfl
  | panic p => rfl
  | ok r1 =>
    simp only []
    cases coreEval H C r1.chk lock flags none none (some r1.stack) none with
    | err e => rfl
    | panic p => rfl
    | ok r2 =>
      simp only []
      cases r2.stack with
      | nil => rfl
      | cons t rest =>
        simp only []
        split <;> rfl

end CG.Proofs.TxChecker
