import CG.Model.ScriptNum
import CG.Spec.ScriptSem
import CG.Base.Lemmas
/-! Lemmas about the script-number codec (`stack.rs`).  What the sign-byte operations do to the value of
    a byte (`clearSign_toNat`, `setSign_toNat`, `signSet_iff`) is proved beside their definitions in
    `Model/ScriptNum.lean`. -/
namespace CG.Proofs.ScriptNum
open CG CG.Model.ScriptNum

theorem natToLE_last (n : Nat) (hn : n ≠ 0) : ∃ init d, natToLE n = init ++ [d] ∧ d ≠ 0 := by
  induction n using Nat.strongRecOn with
  | _ n ih =>
    unfold natToLE
    simp [hn]
    by_cases hq : n / 256 = 0
    · refine ⟨[], UInt8.ofNat (n % 256), ?_, ?_⟩
      · simp [natToLE, hq]
      · intro hc; have := congrArg UInt8.toNat hc; simp at this; omega
    · obtain ⟨init, d, h1, h2⟩ := ih (n / 256) (by omega) hq
      exact ⟨UInt8.ofNat (n % 256) :: init, d, by simp [h1], h2⟩

theorem decodeBig_snoc (init : Bytes) (d : UInt8) :
    decodeBig (init ++ [d]) =
      if d.toNat ≥ 128 then - ((leToNat init + 256 ^ init.length * (d.toNat % 128) : Nat) : Int)
      else ((leToNat init + 256 ^ init.length * (d.toNat % 128) : Nat) : Int) := by
  simp [decodeBig, leToNat_snoc, clearSign_toNat, signSet_iff]

/-- `encode_bigint` on a non-zero number whose magnitude has the digits `init ++ [d]`: a sign byte is
    appended if the top bit of `d` is taken, else the sign goes into `d`; none of the three is `[0]` -/
theorem encodeBig_of_digits (z : Int) (init : Bytes) (d : UInt8) (hn : z.natAbs ≠ 0)
    (hm : natToLE z.natAbs = init ++ [d]) (hd : d ≠ 0) :
    encodeBig z =
      if d.toNat ≥ 128 then init ++ [d] ++ [if z < 0 then (0x80 : UInt8) else 0x00]
      else if z < 0 then init ++ [setSign d] else init ++ [d] := by
  unfold encodeBig
  simp only [magBytes, hn, if_false, hm, List.getLast?_append, List.getLast?_singleton,
    Option.getD_some, List.dropLast_concat, Option.some_or]
  by_cases hbig : d.toNat ≥ 128
  · simp only [hbig, if_true]
    rw [if_neg]
    intro hc; have := congrArg List.length hc; simp at this
  · simp only [hbig, if_false]
    by_cases hneg : z < 0
    · simp only [hneg, if_true]
      rw [if_neg]
      intro hc
      cases init with
      | nil =>
        simp at hc
        have := congrArg UInt8.toNat hc
        simp [setSign_toNat d (by omega)] at this
      | cons a as => have := congrArg List.length hc; simp at this
    · simp only [hneg, if_false]
      rw [if_neg]
      intro hc
      cases init with
      | nil => simp at hc; exact hd hc
      | cons a as => have := congrArg List.length hc; simp at this

theorem decode_encode (z : Int) : decodeBig (encodeBig z) = z := by
  by_cases hz : z = 0
  · subst hz; simp [encodeBig, magBytes, decodeBig]
  · have hn : z.natAbs ≠ 0 := by omega
    obtain ⟨init, d, hm, hd⟩ := natToLE_last z.natAbs hn
    have hval : leToNat init + 256 ^ init.length * d.toNat = z.natAbs := by
      rw [← leToNat_snoc, ← hm, leToNat_natToLE]
    have hdpos := byte_ne_zero_toNat hd
    have hdlt := d.toNat_lt
    rw [encodeBig_of_digits z init d hn hm hd]
    by_cases hbig : d.toNat ≥ 128
    · rw [if_pos hbig, decodeBig_snoc]
      by_cases hneg : z < 0
      · simp [hneg, leToNat_snoc, hval]; omega
      · simp [hneg, leToNat_snoc, hval]; omega
    · rw [if_neg hbig]
      by_cases hneg : z < 0
      · have hor := setSign_toNat d (by omega)
        rw [if_pos hneg, decodeBig_snoc, if_pos (by omega), show (setSign d).toNat % 128 = d.toNat by omega,
          hval]
        omega
      · rw [if_neg hneg, decodeBig_snoc, if_neg hbig, show d.toNat % 128 = d.toNat by omega, hval]
        omega

open CG.Spec.ScriptSem

theorem top_eq (k : Nat) : 2 ^ (8 * (k + 1) - 1) = 256 ^ k * 128 := by
  rw [pow256, show 8 * (k + 1) - 1 = 8 * k + 7 by omega, Nat.pow_add]

/-- the reference value in the normal form of `decodeBig_snoc`: together they give `decodeBig_eq_value` -/
theorem value_snoc (init : Bytes) (d : UInt8) :
    value (init ++ [d]) =
      if d.toNat ≥ 128 then - ((leToNat init + 256 ^ init.length * (d.toNat % 128) : Nat) : Int)
      else ((leToNat init + 256 ^ init.length * (d.toNat % 128) : Nat) : Int) := by
  have hlt := leToNat_lt init
  have hd := d.toNat_lt
  have hP : 0 < 256 ^ init.length := Nat.pow_pos (by decide)
  have hne : (init ++ [d]).isEmpty = false := by simp
  unfold value
  simp only [hne, Bool.false_eq_true, if_false, List.length_append, List.length_singleton, top_eq,
    leToNat_snoc]
  generalize 256 ^ init.length = P at *
  generalize leToNat init = A at *
  by_cases h : d.toNat ≥ 128
  · have e : P * d.toNat = P * 128 + P * (d.toNat % 128) := by rw [← Nat.mul_add]; congr 1; omega
    rw [if_pos h, if_pos (by omega)]
    omega
  · have e : d.toNat % 128 = d.toNat := by omega
    have h2 : P * d.toNat + P ≤ P * 128 := by
      have : P * (d.toNat + 1) ≤ P * 128 := Nat.mul_le_mul_left _ (by omega)
      rwa [Nat.mul_add, Nat.mul_one] at this
    rw [if_neg h, if_neg (by omega), e]

theorem decodeBig_eq_value (s : Bytes) : decodeBig s = value s := by
  by_cases hs : s = []
  · subst hs; rfl
  · obtain ⟨init, d, rfl⟩ := list_snoc_of_ne_nil s hs
    rw [decodeBig_snoc, value_snoc]

theorem minLenAux_spec (m : Nat) : ∀ fuel k, 1 ≤ k →
    (∀ j, 1 ≤ j → j < k → 2 ^ (8 * j - 1) ≤ m) → m < 2 ^ (8 * (k + fuel - 1) - 1) →
    k ≤ minLenAux m fuel k ∧ m < 2 ^ (8 * minLenAux m fuel k - 1) ∧
      ∀ j, 1 ≤ j → j < minLenAux m fuel k → 2 ^ (8 * j - 1) ≤ m := by
  intro fuel
  induction fuel with
  | zero =>
    intro k hk hinv hf
    simp only [minLenAux]
    refine ⟨Nat.le_refl _, ?_, hinv⟩
    by_cases h1 : k = 1
    · subst h1; simp at hf; omega
    · have := hinv (k - 1) (by omega) (by omega)
      simp only [Nat.add_zero] at hf
      omega
  | succ fuel ih =>
    intro k hk hinv hf
    simp only [minLenAux]
    by_cases h : m < 2 ^ (8 * k - 1)
    · rw [if_pos h]; exact ⟨Nat.le_refl _, h, hinv⟩
    · rw [if_neg h]
      have := ih (k + 1) (by omega)
        (by intro j h1 h2
            by_cases hj : j = k
            · subst hj; omega
            · exact hinv j h1 (by omega))
        (by rw [show k + 1 + fuel - 1 = k + (fuel + 1) - 1 by omega]; exact hf)
      exact ⟨by omega, this.2⟩

theorem minLen_spec (m : Nat) (hm : m ≠ 0) :
    1 ≤ minLen m ∧ m < 2 ^ (8 * minLen m - 1) ∧ ∀ j, 1 ≤ j → j < minLen m → 2 ^ (8 * j - 1) ≤ m := by
  -- the initial fuel `m` is enough: the search stops at the latest at length `m`
  have hfuel : m < 2 ^ (8 * m - 1) :=
    Nat.lt_of_lt_of_le Nat.lt_two_pow_self (Nat.pow_le_pow_right (by decide) (by omega))
  unfold minLen
  rw [if_neg hm]
  exact minLenAux_spec m m 1 (Nat.le_refl _) (by intro j h1 h2; omega)
    (by rw [show 1 + m - 1 = m by omega]; exact hfuel)

theorem minLen_eq (m k : Nat) (hm : m ≠ 0) (hk : 1 ≤ k) (hlt : m < 2 ^ (8 * k - 1))
    (hge : k = 1 ∨ 2 ^ (8 * (k - 1) - 1) ≤ m) : minLen m = k := by
  obtain ⟨h1, h2, h3⟩ := minLen_spec m hm
  by_cases hlt' : minLen m < k
  · rcases hge with rfl | hge
    · omega
    · have : 2 ^ (8 * minLen m - 1) ≤ 2 ^ (8 * (k - 1) - 1) :=
        Nat.pow_le_pow_right (by decide) (by omega)
      omega
  · by_cases hgt : k < minLen m
    · have := h3 k hk hgt; omega
    · omega

theorem encodeMin_eq (z : Int) (k : Nat) (hk : 1 ≤ k) (h : minLen z.natAbs = k) :
    encodeMin z = natToLEn k (z.natAbs + (if z < 0 then 2 ^ (8 * k - 1) else 0)) := by
  unfold encodeMin
  simp only [h]
  rw [if_neg (by omega)]

theorem encodeMin_zero : encodeMin 0 = [] := by decide

theorem encodeMin_value_of_minimal (s : Bytes) (hmin : Minimal s) : encodeMin (value s) = s := by
  by_cases hs : s = []
  · subst hs; decide
  obtain ⟨init, d, rfl⟩ := list_snoc_of_ne_nil s hs
  have hA := leToNat_lt init
  have hd := d.toNat_lt
  have hP : 0 < 256 ^ init.length := Nat.pow_pos (by decide)
  have hub : 256 ^ init.length * (d.toNat % 128) ≤ 256 ^ init.length * 127 :=
    Nat.mul_le_mul_left _ (by omega)
  have hnat := natToLEn_leToNat (init ++ [d])
  have e : 256 ^ init.length * d.toNat
      = 256 ^ init.length * (d.toNat / 128 * 128) + 256 ^ init.length * (d.toNat % 128) := by
    rw [← Nat.mul_add, Nat.div_add_mod']
  rw [value_snoc]
  generalize hM : leToNat init + 256 ^ init.length * (d.toNat % 128) = M
  -- minimality: the magnitude is non-zero and does not fit `init.length` bytes
  have hlow : (init.length + 1 = 1 ∨ 2 ^ (8 * (init.length + 1 - 1) - 1) ≤ M) ∧ M ≠ 0 := by
    unfold Minimal at hmin
    simp only [List.getLast?_append, List.getLast?_singleton, Option.some_or,
      List.dropLast_concat, clearSign_toNat] at hmin
    rcases hmin with h | ⟨p, hp, hp128⟩
    · have : 256 ^ init.length * 1 ≤ 256 ^ init.length * (d.toNat % 128) :=
        Nat.mul_le_mul_left _ (by omega)
      have h2 : 2 ^ (8 * (init.length + 1 - 1) - 1) ≤ 256 ^ init.length := by
        rw [pow256]; exact Nat.pow_le_pow_right (by decide) (by omega)
      exact ⟨.inr (by omega), by omega⟩
    · have hne : init ≠ [] := by intro hc; subst hc; simp at hp
      obtain ⟨i2, p', rfl⟩ := list_snoc_of_ne_nil init hne
      simp only [List.getLast?_append, List.getLast?_singleton, Option.some_or,
        Option.some.injEq] at hp
      subst hp
      have hP2 : 0 < 256 ^ i2.length := Nat.pow_pos (by decide)
      have : 256 ^ i2.length * 128 ≤ 256 ^ i2.length * p'.toNat := Nat.mul_le_mul_left _ hp128
      simp only [List.length_append, List.length_singleton, leToNat_snoc,
        Nat.add_sub_cancel, top_eq] at hM ⊢
      exact ⟨.inr (by omega), by omega⟩
  have hk : minLen M = init.length + 1 :=
    minLen_eq _ _ hlow.2 (by omega) (by rw [top_eq]; omega) hlow.1
  split
  · rw [encodeMin_eq _ (init.length + 1) (by omega) (by rw [Int.natAbs_neg, Int.natAbs_natCast]; exact hk),
      if_pos (by omega), ← hnat]
    simp only [List.length_append, List.length_singleton, leToNat_snoc, top_eq, Int.natAbs_neg,
      Int.natAbs_natCast]
    congr 1
    rw [show d.toNat / 128 * 128 = 128 by omega] at e
    omega
  · rw [encodeMin_eq _ (init.length + 1) (by omega) (by rw [Int.natAbs_natCast]; exact hk),
      if_neg (by omega), ← hnat]
    simp only [List.length_append, List.length_singleton, leToNat_snoc, Int.natAbs_natCast,
      Nat.add_zero]
    congr 1
    rw [show d.toNat / 128 * 128 = 0 by omega] at e
    omega

theorem encodeBig_minimal (z : Int) : Minimal (encodeBig z) := by
  by_cases hz : z = 0
  · subst hz; simp [encodeBig, magBytes, Minimal]
  · have hn : z.natAbs ≠ 0 := by omega
    obtain ⟨init, d, hm, hd⟩ := natToLE_last z.natAbs hn
    have hdpos := byte_ne_zero_toNat hd
    have hdlt := d.toNat_lt
    rw [encodeBig_of_digits z init d hn hm hd]
    unfold Minimal
    by_cases hbig : d.toNat ≥ 128
    · rw [if_pos hbig]
      simp only [List.getLast?_append, List.getLast?_singleton, Option.some_or, List.dropLast_concat]
      exact Or.inr ⟨d, rfl, hbig⟩
    · rw [if_neg hbig]
      by_cases hneg : z < 0
      · have hor := setSign_toNat d (by omega)
        rw [if_pos hneg]
        simp only [List.getLast?_append, List.getLast?_singleton, Option.some_or, clearSign_toNat]
        left; omega
      · rw [if_neg hneg]
        simp only [List.getLast?_append, List.getLast?_singleton, Option.some_or, clearSign_toNat]
        left; omega

theorem encodeBig_eq_encodeMin (z : Int) : encodeBig z = encodeMin z := by
  have h := encodeMin_value_of_minimal (encodeBig z) (encodeBig_minimal z)
  rw [← decodeBig_eq_value, decode_encode] at h
  exact h.symm

theorem encode_decode_of_minimal (s : Bytes) (h : Minimal s) : encodeBig (decodeBig s) = s := by
  rw [encodeBig_eq_encodeMin, decodeBig_eq_value]; exact encodeMin_value_of_minimal s h

theorem minimal_unique (s t : Bytes) (hs : Minimal s) (ht : Minimal t)
    (h : decodeBig s = decodeBig t) : s = t := by
  rw [← encode_decode_of_minimal s hs, ← encode_decode_of_minimal t ht, h]

theorem decodeNum_small (s : Bytes) (h : s.length ≤ 4) : decodeNum s = .ok (decodeBig s) := by
  unfold decodeNum decodeBig
  cases s.getLast? with
  | none => rfl
  | some last => simp only [h, if_true]

theorem decodeBool_iff (s : Bytes) : decodeBool s = true ↔ decodeBig s ≠ 0 := by
  by_cases hs : s = []
  · subst hs; simp [decodeBool, decodeBig]
  · obtain ⟨init, d, rfl⟩ := list_snoc_of_ne_nil s hs
    -- the value is zero exactly when the magnitude `init ++ [clearSign d]` is
    have hmag : decodeBig (init ++ [d]) ≠ 0 ↔ leToNat (init ++ [clearSign d]) ≠ 0 := by
      simp only [decodeBig, List.getLast?_append, List.getLast?_singleton, Option.some_or,
        List.dropLast_concat]
      split <;> omega
    rw [hmag, Ne, leToNat_eq_zero_iff]
    simp [decodeBool, Classical.not_forall]

/-- `encode_num` (the 4-byte `i32` encoder) agrees with `encode_bigint` on its whole domain -/
theorem encodeNum_eq (v : Int) (h : v.natAbs ≤ 2147483647) : encodeNum v = .ok (encodeBig v) := by
  rw [encodeBig_eq_encodeMin]
  -- `encodeMin v` for a `k+1`-byte magnitude, in the shape `encode_num` builds it
  have key : ∀ k, v.natAbs ≠ 0 → v.natAbs < 2 ^ (8 * (k + 1) - 1) →
      (k + 1 = 1 ∨ 2 ^ (8 * k - 1) ≤ v.natAbs) →
      encodeMin v = natToLEn k v.natAbs ++ [UInt8.ofNat (v.natAbs / 256 ^ k + if v < 0 then 128 else 0)] := by
    intro k h0 hlt hge
    rw [encodeMin_eq v (k + 1) (by omega) (minLen_eq _ _ h0 (by omega) hlt hge), ← natToLEn_add_top, top_eq]
    congr 2
    split <;> simp
  unfold encodeNum
  rw [if_neg (by omega)]
  simp only []
  by_cases h0 : v.natAbs = 0
  · have : v = 0 := by omega
    subst this; rfl
  rw [if_neg h0]
  by_cases h1 : v.natAbs < 128
  · rw [if_pos h1, key 0 h0 (by simpa using h1) (.inl rfl)]
    simp only [natToLEn, List.nil_append, Nat.pow_zero, Nat.div_one]
  rw [if_neg h1]
  by_cases h2 : v.natAbs < 32768
  · rw [if_pos h2, key 1 h0 (by simpa using h2) (.inr (by simp; omega))]
    simp only [natToLEn, List.cons_append, List.nil_append, Nat.pow_one]
  rw [if_neg h2]
  by_cases h3 : v.natAbs < 8388608
  · rw [if_pos h3, key 2 h0 (by simpa using h3) (.inr (by simp; omega))]
    simp only [natToLEn, List.cons_append, List.nil_append]
  rw [if_neg h3, key 3 h0 (by simp; omega) (.inr (by simp; omega))]
  simp only [natToLEn, List.cons_append, List.nil_append, Nat.div_div_eq_div_mul]
end CG.Proofs.ScriptNum
