import CG.Model.Merkle
import CG.Spec.Bip37
/-!
Helper lemmas for C14: the queue reduction of `Block::merkle_root` is the level-by-level Merkle
root; the integer depth is `⌈log2 n⌉`; the counter-based traversal of `MerkleBlock::validate`
simulates the position-based BIP-37 extractor; the extractor's root by position is the level-by-level
root, and it parses back what the BIP-37 builder emits.
-/
namespace CG.Proofs.Merkle
open CG CG.Model.Merkle CG.Spec.Bip37

theorem innerLoop_eq (H : Bytes → Bytes) (xs acc : List Bytes) :
    innerLoop H xs.length (xs ++ acc) = .ok (acc ++ pairUp H xs) := by
  induction xs using pairUp.induct generalizing acc with
  | case1 => simp [innerLoop, pairUp]
  | case2 a => simp [innerLoop, pairUp]
  | case3 a b r ih =>
    simp only [List.length_cons, List.cons_append, innerLoop, pairUp]
    have := ih (acc ++ [H (a ++ b)])
    simp only [List.append_assoc, List.cons_append, List.nil_append] at this ⊢
    exact this

theorem innerLoop_row (H : Bytes → Bytes) (row : List Bytes) :
    innerLoop H row.length row = .ok (pairUp H row) := by
  simpa using innerLoop_eq H row []

theorem merkleRoot_of_length_gt (H : Bytes → Bytes) (l : List Bytes) (hl : 1 < l.length) :
    Spec.Bip37.merkleRoot H l = Spec.Bip37.merkleRoot H (pairUp H l) := by
  match l, hl with
  | _ :: _ :: _, _ => rw [Spec.Bip37.merkleRoot]

theorem merkleRoot_of_length_one (H : Bytes → Bytes) (l : List Bytes) (hl : l.length = 1) :
    Spec.Bip37.merkleRoot H l = some (l[0]?.getD []) := by
  match l, hl with
  | [a], _ =>
    rw [Spec.Bip37.merkleRoot]
    rfl

theorem outerLoop_eq (H : Bytes → Bytes) (fuel : Nat) (row : List Bytes) (hne : row ≠ [])
    (hl : row.length ≤ fuel + 1) :
    ∃ r, Spec.Bip37.merkleRoot H row = some r ∧ outerLoop H fuel row = .ok [r] := by
  induction row using Spec.Bip37.merkleRoot.induct H generalizing fuel with
  | case1 => exact absurd rfl hne
  | case2 a => exact ⟨a, by rw [Spec.Bip37.merkleRoot], by cases fuel <;> rfl⟩
  | case3 a b r ih =>
    obtain ⟨fuel, rfl⟩ : ∃ f, fuel = f + 1 := ⟨fuel - 1, by simp at hl; omega⟩
    rw [outerLoop, if_pos (by simp), innerLoop_row, merkleRoot_of_length_gt H _ (by simp)]
    exact ih fuel (by simp [pairUp]) (by rw [pairUp_length]; simp at hl ⊢; omega)

/-- `d = ⌈log2 n⌉` -/
def IsClog (n d : Nat) : Prop := n ≤ 2 ^ d ∧ ∀ d', d' < d → 2 ^ d' < n

theorem IsClog.unique {n d e : Nat} (h1 : IsClog n d) (h2 : IsClog n e) : d = e := by
  rcases Nat.lt_trichotomy d e with h | h | h
  · have := h2.2 d h; have := h1.1; omega
  · exact h
  · have := h1.2 e h; have := h2.1; omega

theorem IsClog.lt_iff {n D h : Nat} (hD : IsClog n D) (hh : h ≤ D) : 2 ^ h < n ↔ h < D := by
  refine ⟨fun hlt => ?_, hD.2 h⟩
  have : h ≠ D := fun e => by have := hD.1; subst e; omega
  omega

theorem width_zero (n : Nat) : width n 0 = n := by simp [width]

theorem width_succ (n h : Nat) : width n (h + 1) = (width n h + 1) / 2 := by
  unfold width
  have hp := Nat.two_pow_pos h
  rw [Nat.pow_succ, ← Nat.div_div_eq_div_mul]
  congr 1
  rw [show n + 2 ^ h * 2 - 1 = (n + 2 ^ h - 1) + 2 ^ h by omega, Nat.add_div_right _ hp]

theorem width_pos (n h : Nat) (hn : 1 ≤ n) : 1 ≤ width n h :=
  (Nat.le_div_iff_mul_le (Nat.two_pow_pos h)).mpr (by omega)

theorem width_gt_one_iff (n h : Nat) : width n h > 1 ↔ 2 ^ h < n := by
  have hp := Nat.two_pow_pos h
  show 2 ≤ (n + 2 ^ h - 1) / 2 ^ h ↔ _
  rw [Nat.le_div_iff_mul_le hp]
  omega

theorem width_eq_one {n d : Nat} (hn : 1 ≤ n) (hd : IsClog n d) : width n d = 1 := by
  have h1 := width_pos n d hn
  have h2 := mt (width_gt_one_iff n d).mp (Nat.not_lt.mpr hd.1)
  omega

theorem heightFrom_isClog (n : Nat) (fuel h : Nat) (hf : n ≤ fuel + h)
    (hinv : ∀ d', d' < h → 2 ^ d' < n) : IsClog n (heightFrom n fuel h) := by
  induction fuel generalizing h with
  | zero => exact ⟨by have := @Nat.lt_two_pow_self h; rw [heightFrom]; omega, hinv⟩
  | succ fuel ih =>
    rw [heightFrom]
    split
    · rename_i hw
      refine ih (h + 1) (by omega) fun d' hd' => ?_
      by_cases hdh : d' = h
      · exact hdh ▸ (width_gt_one_iff n h).mp hw
      · exact hinv d' (by omega)
    · rename_i hw
      exact ⟨Nat.not_lt.mp (mt (width_gt_one_iff n h).mpr hw), hinv⟩

theorem height_isClog (n : Nat) : IsClog n (height n) :=
  heightFrom_isClog n n 0 (by omega) (by intro d' hd'; omega)

theorem treeDepthOf_isClog (n : Nat) (h1 : 1 ≤ n) (h32 : n < 2 ^ 32) : IsClog n (treeDepthOf n) := by
  unfold treeDepthOf clz32
  by_cases h0 : n - 1 = 0
  · have : n = 1 := by omega
    subst this
    simp [IsClog]
  · have hlt : (n - 1).log2 < 32 := (Nat.log2_lt h0).mpr (by omega)
    rw [if_neg h0, show 32 - (31 - (n - 1).log2) = (n - 1).log2 + 1 by omega]
    constructor
    · have := (Nat.log2_lt (k := (n - 1).log2 + 1) h0).mp (by omega)
      omega
    · intro d' hd'
      have h2 : 2 ^ (n - 1).log2 ≤ n - 1 := Nat.log2_self_le h0
      have h3 : 2 ^ d' ≤ 2 ^ (n - 1).log2 := Nat.pow_le_pow_right (by decide) (by omega)
      omega

/-- number of nodes of a complete subtree whose root is `h` rows above the leaves -/
def full (h : Nat) : Nat := 2 ^ (h + 1) - 1

theorem full_succ (h : Nat) : full (h + 1) = 2 * full h + 1 := by
  have := Nat.two_pow_pos (h + 1)
  rw [full, full, Nat.pow_succ]
  omega

theorem full_lt {h k : Nat} (hk : h < k) : full h < 2 ^ k := by
  have := Nat.pow_le_pow_right (n := 2) (by decide) hk
  have := Nat.two_pow_pos (h + 1)
  unfold full
  omega

/-- number of nodes in the subtree below the LAST node of row `h` -/
def sizeLast (n : Nat) : Nat → Nat
  | 0 => 1
  | h + 1 => 1 + sizeLast n h + (if width n h % 2 = 0 then full h else 0)

/-- number of nodes in rows `0..h` -/
def rowsTotal (n : Nat) : Nat → Nat
  | 0 => n
  | h + 1 => rowsTotal n h + width n (h + 1)

theorem sizeLast_pos (n h : Nat) : 1 ≤ sizeLast n h := by
  cases h <;> rw [sizeLast] <;> omega

theorem sizeLast_le (n h : Nat) : sizeLast n h ≤ full h := by
  induction h with
  | zero => exact Nat.le_refl 1
  | succ h ih =>
    rw [sizeLast, full_succ]
    split <;> omega

/-- A row of `2m+1` or `2m+2` nodes has `m+1` parents; below the last parent lie the last node's
    subtree and, in the even case, the complete subtree of its left sibling. -/
theorem row_cases (n h : Nat) (hw : 1 ≤ width n h) :
    ∃ m, width n (h + 1) = m + 1 ∧
      ((width n h = 2 * m + 1 ∧ sizeLast n (h + 1) = 1 + sizeLast n h) ∨
        (width n h = 2 * m + 2 ∧ sizeLast n (h + 1) = 1 + sizeLast n h + full h)) := by
  rw [width_succ, sizeLast]
  refine ⟨(width n h - 1) / 2, by omega, ?_⟩
  split <;> omega

/-- the non-last nodes of row `h` head complete subtrees; together with the last node's subtree
    they make up rows `0..h` -/
theorem sizeLast_rows (n : Nat) (hn : 1 ≤ n) (h : Nat) :
    sizeLast n h + (width n h - 1) * full h = rowsTotal n h := by
  induction h with
  | zero =>
    rw [sizeLast, rowsTotal, width_zero, show full 0 = 1 from rfl]
    omega
  | succ h ih =>
    obtain ⟨m, hw, hc⟩ := row_cases n h (width_pos n h hn)
    rw [rowsTotal, full_succ, ← ih, hw]
    -- in both cases what is left is an identity between polynomials in `m`, `full h`, `sizeLast n h`
    rcases hc with ⟨e, es⟩ | ⟨e, es⟩
    · rw [e, es]
      grind
    · rw [e, es]
      grind

theorem totalLoop_eq {n D : Nat} (hD : IsClog n D) (fuel h : Nat) (hh : h ≤ D)
    (hf : width n h ≤ fuel + 1) :
    totalLoop fuel (width n h) (rowsTotal n h) = rowsTotal n D := by
  have hlast : ∀ h, h ≤ D → ¬ width n h > 1 → rowsTotal n h = rowsTotal n D := fun h hh hw => by
    rw [width_gt_one_iff, hD.lt_iff hh] at hw
    rw [show h = D by omega]
  induction fuel generalizing h with
  | zero => exact hlast h hh (by omega)
  | succ fuel ih =>
    rw [totalLoop]
    split
    · rename_i hw
      rw [← width_succ]
      exact ih (h + 1) ((hD.lt_iff hh).mp ((width_gt_one_iff n h).mp hw)) (by rw [width_succ]; omega)
    · exact hlast h hh ‹_›

theorem totalNodes_eq (n D : Nat) (hn : 1 ≤ n) (hD : IsClog n D) :
    totalNodes n = sizeLast n D := by
  have h := totalLoop_eq hD n 0 (Nat.zero_le D) (by rw [width_zero]; omega)
  rw [width_zero] at h
  rw [totalNodes, show totalLoop n n n = rowsTotal n D from h, ← sizeLast_rows n hn D, width_eq_one hn hD]
  omega


theorem flagVal (m k : Nat) : (m >>> k) &&& 1 = if m.testBit k then 1 else 0 := by
  rw [Nat.and_one_is_mod, Nat.shiftRight_eq_div_pow, ← Nat.toNat_testBit]
  cases m.testBit k <;> rfl

theorem bitsOfByte_length (b : UInt8) : (bitsOfByte b).length = 8 := by simp [bitsOfByte]

theorem bitsOfByte_get (b : UInt8) (i : Nat) (h : i < 8) : (bitsOfByte b)[i]? = some (b.toNat.testBit i) := by
  simp [bitsOfByte, h]

theorem bitsOf_cons (b : UInt8) (r : Bytes) : bitsOf (b :: r) = bitsOfByte b ++ bitsOf r := by
  simp [bitsOf]

theorem bitsOf_get (flags : Bytes) (i : Nat) :
    (bitsOf flags)[i]? = (flags[i / 8]?).map (fun b => b.toNat.testBit (i % 8)) := by
  induction flags generalizing i with
  | nil => simp [bitsOf]
  | cons b r ih =>
    rw [bitsOf_cons]
    by_cases h : i < 8
    · rw [List.getElem?_append_left (by rw [bitsOfByte_length]; exact h), bitsOfByte_get b i h,
        show i / 8 = 0 by omega, show i % 8 = i by omega]
      rfl
    · rw [List.getElem?_append_right (by rw [bitsOfByte_length]; omega), bitsOfByte_length, ih,
        show i / 8 = (i - 8) / 8 + 1 by omega, show (i - 8) % 8 = i % 8 by omega]
      rfl

theorem bitsOf_length (flags : Bytes) : (bitsOf flags).length = 8 * flags.length := by
  induction flags with
  | nil => rfl
  | cons b r ih =>
    rw [bitsOf_cons, List.length_append, ih, bitsOfByte_length, List.length_cons]
    omega

/-- the part of the traversal state the reference extractor also has -/
def toSpec (st : St) : PST := ⟨st.bits, st.hashes, st.matched⟩

theorem consumeFlag_eq (flags : Bytes) (st : St) :
    consumeFlag flags st =
      match (bitsOf flags)[st.bits]? with
      | none => .err "BadData"
      | some b => .ok ((if b then 1 else 0), { st with bits := st.bits + 1 }) := by
  unfold consumeFlag
  rw [bitsOf_get]
  by_cases h : st.bits / 8 ≥ flags.length
  · rw [if_pos h, List.getElem?_eq_none (by omega)]
    rfl
  · rw [if_neg h, List.getElem?_eq_getElem (by omega)]
    simp only [Option.map_some, flagVal]

theorem consumeHash_eq (hashes : List Bytes) (st : St) :
    consumeHash hashes st =
      match hashes[st.hashes]? with
      | none => .err "BadData"
      | some x => .ok (x, { st with hashes := st.hashes + 1 }) := by
  unfold consumeHash
  by_cases h : st.hashes ≥ hashes.length
  · rw [if_pos h, List.getElem?_eq_none (by omega)]
  · rw [if_neg h, List.getElem?_eq_getElem (by omega)]

theorem addNode_ok (st : St) (k : Nat) (h : st.node + k < 2 ^ 64) :
    addNode st k = .ok { st with node := st.node + k } := by
  unfold addNode
  rw [if_neg (by omega)]

section extractAux
variable {H : Bytes → Bytes} {n : Nat} {bits : List Bool} {hashes : List Bytes} {h p : Nat} {st : PST}

theorem extractAux_none (hb : bits[st.bitsUsed]? = none) :
    extractAux H n bits hashes h p st = none := by
  rw [extractAux, hb]

theorem extractAux_hash {b : Bool} (hb : bits[st.bitsUsed]? = some b) (hbh : b = false ∨ h = 0) :
    extractAux H n bits hashes h p st =
      hashes[st.hashUsed]?.map fun x =>
        (x, ⟨st.bitsUsed + 1, st.hashUsed + 1, if b then st.matched ++ [x] else st.matched⟩) := by
  rw [extractAux, hb]
  dsimp only
  rcases hbh with rfl | rfl
  · cases h <;> cases hashes[st.hashUsed]? <;> simp
  · cases b <;> cases hashes[st.hashUsed]? <;> simp

theorem extractAux_node (hb : bits[st.bitsUsed]? = some true) :
    extractAux H n bits hashes (h + 1) p st =
      (extractAux H n bits hashes h (2 * p) { st with bitsUsed := st.bitsUsed + 1 }).bind fun (left, st) =>
        if 2 * p + 1 < width n h then
          (extractAux H n bits hashes h (2 * p + 1) st).bind fun (right, st) =>
            if left = right then none else some (H (left ++ right), st)
        else some (H (left ++ left), st) := by
  rw [extractAux, hb]
  dsimp only
  cases extractAux H n bits hashes h (2 * p) { st with bitsUsed := st.bitsUsed + 1 } with
  | none => rfl
  | some v =>
    dsimp only [Option.bind_some]
    split
    · cases extractAux H n bits hashes h (2 * p + 1) v.2 <;> rfl
    · rfl

theorem extractAux_le {r : Bytes} {st' : PST} (he : extractAux H n bits hashes h p st = some (r, st')) :
    st'.bitsUsed ≤ bits.length ∧ st'.hashUsed ≤ hashes.length := by
  induction h using Nat.strongRecOn generalizing p st r st' with
  | _ h ih =>
  cases hb : bits[st.bitsUsed]? with
  | none =>
    rw [extractAux_none hb] at he
    cases he
  | some b =>
    by_cases hbh : b = false ∨ h = 0
    · rw [extractAux_hash hb hbh] at he
      obtain ⟨x, hx, he⟩ := Option.map_eq_some_iff.mp he
      cases he
      exact ⟨(List.getElem?_eq_some_iff.mp hb).1, (List.getElem?_eq_some_iff.mp hx).1⟩
    · obtain ⟨h, rfl⟩ : ∃ k, h = k + 1 := ⟨h - 1, by omega⟩
      obtain rfl : b = true := by simpa using hbh
      rw [extractAux_node hb] at he
      obtain ⟨⟨left, st1⟩, hL, he⟩ := Option.bind_eq_some_iff.mp he
      dsimp only at he
      split at he
      · obtain ⟨⟨right, st2⟩, hR, he⟩ := Option.bind_eq_some_iff.mp he
        dsimp only at he
        split at he
        · cases he
        · cases he
          exact ih h (by omega) hR
      · cases he
        exact ih h (by omega) hL

end extractAux

/-- What is known about the pre-order counter when the traversal ENTERS node `(h, p)`.
    A node that is not the last of its row heads a complete subtree of `full h` nodes and
    something follows it; the last node of a row is followed by nothing, so the counter plus the
    size of its subtree is exactly the total.  (A node is last in its row iff all its ancestors
    are — the right edge of the tree.) -/
structure Pre (n total h p node : Nat) : Prop where
  nonlast : p + 1 < width n h → node + full h < total
  last : p + 1 = width n h → node + sizeLast n h = total
  bound : node + full h < 2 ^ 64

/-- What is known about the counter when the traversal LEAVES node `(h, p)`: exact for a node that
    is not last in its row; at least the total for the last node of a row (a skipped right-edge
    subtree is over-counted as if it were complete, which is harmless). -/
structure Post (n total h p node node' : Nat) : Prop where
  nonlast : p + 1 < width n h → node' = node + full h
  last : p + 1 = width n h → total ≤ node'

section counter
variable {n total h p node node2 node3 : Nat}

theorem post_skip (hpre : Pre n total h p node) : Post n total h p node (node + full h) :=
  ⟨fun _ => rfl, fun h2 => by have := hpre.last h2; have := sizeLast_le n h; omega⟩

theorem left_lt (hp : p < width n (h + 1)) : 2 * p < width n h := by
  rw [width_succ] at hp
  omega

theorem Pre.lt_total (hpre : Pre n total h p node) (hp : p < width n h) : node < total := by
  have := sizeLast_pos n h
  rcases Nat.lt_or_eq_of_le (Nat.succ_le_of_lt hp) with a | a
  · have := hpre.nonlast a; omega
  · have := hpre.last a; omega

/-- The counter on entry to the children: past the parent itself, and past the complete subtree of
    the left child if there is a right one.  With `width n (h+1) = ⌈width n h / 2⌉`,
    `full (h+1) = 2 * full h + 1` and the equation of `sizeLast` this is linear arithmetic. -/
theorem pre_children (hp : p < width n (h + 1)) (hpre : Pre n total (h + 1) p node) :
    Pre n total h (2 * p) (node + 1) ∧
      (2 * p + 1 < width n h → Pre n total h (2 * p + 1) (node + 1 + full h)) := by
  obtain ⟨h1, h2, h3⟩ := hpre
  obtain ⟨m, hw, hc⟩ := row_cases n h (by have := left_lt hp; omega)
  have hs := sizeLast_pos n h
  rw [full_succ] at h1 h3
  refine ⟨⟨?_, ?_, ?_⟩, fun _ => ⟨?_, ?_, ?_⟩⟩ <;> omega

/-- No right sibling: the left child was the last node of its row, so the counter has reached the total. -/
theorem post_parent_one (hp : p < width n (h + 1)) (hr : ¬ 2 * p + 1 < width n h)
    (postL : Post n total h (2 * p) (node + 1) node2) :
    node2 ≥ total ∧ Post n total (h + 1) p node node2 := by
  have l2 := postL.last (by have := left_lt hp; omega)
  rw [width_succ] at hp
  exact ⟨l2, fun a => by rw [width_succ] at a; omega, fun _ => l2⟩

theorem post_parent_two (hr : 2 * p + 1 < width n h)
    (postL : Post n total h (2 * p) (node + 1) node2)
    (postR : Post n total h (2 * p + 1) node2 node3) : Post n total (h + 1) p node node3 := by
  have l1 := postL.nonlast hr
  have ws := width_succ n h
  refine ⟨fun a => ?_, fun a => postR.last (by omega)⟩
  have := postR.nonlast (by omega)
  rw [full_succ]
  omega

end counter

/-- simulation relation between the reference extractor's answer and the traversal's -/
def Rel (n total h p node : Nat) (o : Option (Bytes × PST)) (m : Outcome (Bytes × St)) : Prop :=
  (o = none ∧ m = .err "BadData") ∨
    ∃ r st', m = .ok (r, st') ∧ o = some (r, toSpec st') ∧ Post n total h p node st'.node

section sim
variable (H : Bytes → Bytes) (n : Nat) (flags : Bytes) (hashes : List Bytes) (D total : Nat)

/-- a node that is not descended into: no flag bit left, flag 0, or a leaf -/
theorem sim_hash {h fuel depth p : Nat} {st : St} (hD : D ≤ 62) (hd : depth + h = D) (hpre : Pre n total h p st.node)
    (hnd : (bitsOf flags)[st.bits]? ≠ some true ∨ h = 0) :
    Rel n total h p st.node (extractAux H n (bitsOf flags) hashes h p (toSpec st))
      (traverse H flags hashes D total (fuel + 1) depth st) := by
  have h64 := hpre.bound
  rw [traverse, consumeFlag_eq]
  cases hb : (bitsOf flags)[st.bits]? with
  | none =>
    rw [extractAux_none hb]
    exact Or.inl ⟨rfl, rfl⟩
  | some b =>
    have hbh : b = false ∨ h = 0 :=
      hnd.imp_left fun hne => Bool.eq_false_iff.mpr fun e => hne (by rw [hb, e])
    rw [extractAux_hash hb hbh]
    cases b with
    | false =>
      -- the subtree is skipped: the counter advances by the size of a complete one
      have e : D - depth = h := by omega
      simp only [if_true, Bool.false_eq_true, if_false]
      -- `by exact`: the summand is read off the goal, where it is `2 ^ (h + 1) - 1` written out, and
      -- `h64` bounds it as `full h`
      rw [if_neg (by omega), if_neg (by omega), e, addNode_ok _ _ (by exact h64)]
      simp only [consumeHash_eq, toSpec]
      cases hashes[st.hashes]? with
      | none => exact Or.inl ⟨rfl, rfl⟩
      | some x => exact Or.inr ⟨_, _, rfl, rfl, post_skip hpre⟩
    | true =>
      obtain rfl : h = 0 := by simpa [hb] using hnd
      obtain rfl : depth = D := by omega
      simp only [if_true, Nat.succ_ne_zero, if_false]
      rw [addNode_ok _ _ (by exact h64)]
      simp only [consumeHash_eq, toSpec]
      cases hashes[st.hashes]? with
      | none => exact Or.inl ⟨rfl, rfl⟩
      | some x => exact Or.inr ⟨_, _, rfl, rfl, post_skip hpre⟩

/-- Entered at node `(h, p)` (depth `D - h`) with a counter satisfying `Pre`, the traversal answers as the
    position-based extractor does; in particular its test `counter ≥ total` after the left child is true
    iff there is no right child. -/
theorem sim (hD : D ≤ 62) :
    ∀ (h fuel depth p : Nat) (st : St), depth + h = D → h ≤ fuel → p < width n h →
      Pre n total h p st.node →
      Rel n total h p st.node (extractAux H n (bitsOf flags) hashes h p (toSpec st))
        (traverse H flags hashes D total (fuel + 1) depth st) := by
  intro h
  induction h with
  | zero => exact fun _ _ _ _ hd _ _ hpre => sim_hash H n flags hashes D total hD hd hpre (Or.inr rfl)
  | succ h ih =>
    intro fuel depth p st hd hf hp hpre
    by_cases hb : (bitsOf flags)[st.bits]? = some true
    · obtain ⟨fuel, rfl⟩ : ∃ f, fuel = f + 1 := ⟨fuel - 1, by omega⟩
      have hdD : depth ≠ D := by omega
      have h64 := hpre.bound
      rw [full_succ] at h64
      rw [traverse, consumeFlag_eq, hb, extractAux_node hb]
      simp only [if_true, Nat.succ_ne_zero, if_false, hdD]
      rw [addNode_ok _ _ (by dsimp only; omega)]
      obtain ⟨preL, preR⟩ := pre_children hp hpre
      have ihL := ih fuel (depth + 1) (2 * p) ⟨st.node + 1, st.bits + 1, st.hashes, st.matched⟩
        (by omega) (by omega) (left_lt hp) preL
      simp only [toSpec] at ihL ⊢
      rcases ihL with ⟨hoL, hmL⟩ | ⟨left, st2, hmL, hoL, postL⟩
      · rw [hmL, hoL]
        exact Or.inl ⟨rfl, rfl⟩
      · rw [hmL, hoL]
        dsimp only [Option.bind_some]
        by_cases hr : 2 * p + 1 < width n h
        · have preR : Pre n total h (2 * p + 1) st2.node := postL.nonlast hr ▸ preR hr
          rw [if_pos hr, if_neg (Nat.not_le.mpr (preR.lt_total hr))]
          rcases ih fuel (depth + 1) (2 * p + 1) st2 (by omega) (by omega) hr preR with
            ⟨hoR, hmR⟩ | ⟨right, st3, hmR, hoR, postR⟩
          · rw [hmR, hoR]
            exact Or.inl ⟨rfl, rfl⟩
          · rw [hmR, hoR]
            dsimp only [Option.bind_some]
            by_cases hlr : left = right
            · rw [if_pos hlr, if_pos hlr]
              exact Or.inl ⟨rfl, rfl⟩
            · rw [if_neg hlr, if_neg hlr]
              exact Or.inr ⟨_, _, rfl, rfl, post_parent_two hr postL postR⟩
        · obtain ⟨hnd, post⟩ := post_parent_one hp hr postL
          rw [if_neg hr, if_pos hnd]
          exact Or.inr ⟨_, _, rfl, rfl, post⟩
    · exact sim_hash H n flags hashes D total hD hd hpre (Or.inl hb)

end sim

theorem sim_root (H : Bytes → Bytes) {n D : Nat} (hn : 1 ≤ n) (flags : Bytes) (hashes : List Bytes)
    (hD : IsClog n D) (hD62 : D ≤ 62) :
    Rel n (totalNodes n) D 0 0 (extractAux H n (bitsOf flags) hashes D 0 ⟨0, 0, []⟩)
      (traverse H flags hashes D (totalNodes n) (D + 1) 0 ⟨0, 0, 0, []⟩) := by
  have hw := width_eq_one hn hD
  have hpre : Pre n (totalNodes n) D 0 0 :=
    ⟨fun a => by omega, fun _ => by rw [totalNodes_eq n D hn hD]; omega,
      by have := @full_lt D 63 (by omega); omega⟩
  exact sim H n flags hashes D (totalNodes n) hD62 D D 0 0 ⟨0, 0, 0, []⟩ (by omega) (Nat.le_refl D)
    (by omega) hpre

/-- **The node-count guard is dead code.**  Whenever the root traversal returns, the pre-order counter has
    reached the total: `preorder_node < total_nodes` ("Not all nodes consumed") can never be true. -/
theorem root_counter_reaches_total (H : Bytes → Bytes) {n D : Nat} (hn : 1 ≤ n)
    (flags : Bytes) (hashes : List Bytes) (hD : IsClog n D) (hD62 : D ≤ 62) (r : Bytes) (st : St)
    (ht : traverse H flags hashes D (totalNodes n) (D + 1) 0 ⟨0, 0, 0, []⟩ = .ok (r, st)) :
    totalNodes n ≤ st.node := by
  rcases sim_root H hn flags hashes hD hD62 with ⟨_, hm⟩ | ⟨r', st', hm, _, post⟩
  · cases ht.symm.trans hm
  · cases ht.symm.trans hm
    exact post.last (by rw [width_eq_one hn hD])

/-- `MerkleBlock::validate` (with any depth function that is `⌈log2 n⌉` and at most 62 for the declared
    count) accepts exactly the proofs the BIP-37 extractor accepts, with the same matched hashes: the
    traversal simulates the extractor (`sim_root`) and the all-consumed checks agree. -/
theorem validateWith_eq_extract (depthOf : Nat → Nat) (H : Bytes → Bytes) (n : Nat) (flags : Bytes)
    (hashes : List Bytes) (root : Bytes)
    (hdep : 1 ≤ n → IsClog n (depthOf n) ∧ depthOf n ≤ 62) :
    validateWith depthOf H n flags hashes root =
      match extract H n flags hashes root with
      | some m => .ok m
      | none => .err "BadData" := by
  unfold validateWith extract
  by_cases h0 : n = 0
  · rw [if_pos h0, if_pos h0]
  · have hn : 1 ≤ n := by omega
    obtain ⟨hD, hD62⟩ := hdep hn
    rw [if_neg h0, if_neg h0, (height_isClog n).unique hD]
    dsimp only
    rcases sim_root H hn flags hashes hD hD62 with ⟨ho, hm⟩ | ⟨r, st', hm, ho, post⟩
    · rw [ho, hm]
    · rw [ho, hm]
      have hl := extractAux_le ho
      have hnode := post.last (by rw [width_eq_one hn hD])
      rw [bitsOf_length] at hl ⊢
      dsimp only [toSpec] at hl ⊢
      -- the counters cannot exceed the lengths: "less than" is "different from"
      have e1 : st'.hashes < hashes.length ↔ st'.hashes ≠ hashes.length := by omega
      have e2 : (st'.bits + 7) / 8 < flags.length ↔ (st'.bits + 7) / 8 ≠ flags.length := by omega
      rw [show (8 * flags.length + 7) / 8 = flags.length by omega, if_neg (Nat.not_lt.mpr hnode)]
      simp only [e1, e2]
      -- the model tests root, hashes, flag bytes in this order, the extractor in the reverse: whichever
      -- guard fails, the answer is `BadData` / `none`
      by_cases hx : st'.hashes = hashes.length
      · by_cases hb : (st'.bits + 7) / 8 = flags.length
        · by_cases hr : r = root <;> simp [hr, hx, hb]
        · simp [hx, hb]
      · simp [hx]

/-- row `h` of the tree: `h` rounds of pairing -/
def level (H : Bytes → Bytes) (txids : List Bytes) : Nat → List Bytes
  | 0 => txids
  | h + 1 => pairUp H (level H txids h)

theorem level_length (H : Bytes → Bytes) (txids : List Bytes) (h : Nat) :
    (level H txids h).length = width txids.length h := by
  induction h with
  | zero => simp [level, width_zero]
  | succ h ih => rw [level, pairUp_length, ih, width_succ]

theorem pairUp_getD (H : Bytes → Bytes) (l : List Bytes) :
    ∀ p, 2 * p < l.length →
      (pairUp H l)[p]?.getD [] =
        H (l[2 * p]?.getD [] ++ (if 2 * p + 1 < l.length then l[2 * p + 1]?.getD [] else l[2 * p]?.getD [])) := by
  induction l using pairUp.induct with
  | case1 =>
    intro p hp
    simp at hp
  | case2 a =>
    intro p hp
    have : p = 0 := by simp at hp; omega
    subst this
    simp [pairUp]
  | case3 a b r ih =>
    intro p hp
    cases p with
    | zero => simp [pairUp]
    | succ p =>
      have e1 : 2 * (p + 1) = 2 * p + 1 + 1 := by omega
      simp only [pairUp, List.getElem?_cons_succ, e1, List.length_cons]
      rw [ih p (by simp only [List.length_cons] at hp; omega)]
      simp only [Nat.add_lt_add_iff_right]

theorem calcHash_eq_level (H : Bytes → Bytes) (txids : List Bytes) :
    ∀ h p, p < width txids.length h → calcHash H txids h p = (level H txids h)[p]?.getD [] := by
  intro h
  induction h with
  | zero =>
    intro p _
    simp [calcHash, level]
  | succ h ih =>
    intro p hp
    have hl := left_lt hp
    rw [calcHash, level, pairUp_getD H _ p (by rw [level_length]; exact hl), level_length]
    rw [ih (2 * p) hl]
    by_cases hr : 2 * p + 1 < width txids.length h
    · rw [if_pos hr, if_pos hr, ih _ hr]
    · rw [if_neg hr, if_neg hr]

theorem merkleRoot_level (H : Bytes → Bytes) (txids : List Bytes) (D : Nat)
    (hn : 1 ≤ txids.length) (hD : IsClog txids.length D) :
    ∀ k h, h + k = D →
      Spec.Bip37.merkleRoot H (level H txids h) = some ((level H txids D)[0]?.getD []) := by
  intro k
  induction k with
  | zero =>
    intro h hh
    obtain rfl : h = D := by omega
    exact merkleRoot_of_length_one H _ (by rw [level_length, width_eq_one hn hD])
  | succ k ih =>
    intro h hh
    rw [merkleRoot_of_length_gt H _
      (by rw [level_length]; exact (width_gt_one_iff _ _).mpr (hD.2 h (by omega)))]
    exact ih (h + 1) (by omega)

theorem merkleRoot_eq_rootByPosition (H : Bytes → Bytes) (txids : List Bytes) (hne : txids ≠ []) :
    Spec.Bip37.merkleRoot H txids = some (rootByPosition H txids) := by
  have hn : 1 ≤ txids.length := List.length_pos_iff.mpr hne
  have hD := height_isClog txids.length
  have := merkleRoot_level H txids _ hn hD (height txids.length) 0 (by omega)
  rw [level] at this
  rw [this, rootByPosition, calcHash_eq_level H txids _ 0 (by rw [width_eq_one hn hD]; omega)]

theorem bitsVal_testBit : ∀ (c : List Bool) (k : Nat), (bitsVal c).testBit k = c[k]?.getD false := by
  intro c
  induction c with
  | nil =>
    intro k
    simp [bitsVal]
  | cons b r ih =>
    intro k
    cases k with
    | zero =>
      simp only [bitsVal, Nat.testBit_zero, List.getElem?_cons_zero, Option.getD_some]
      cases b <;> simp <;> omega
    | succ k =>
      rw [Nat.testBit_succ, List.getElem?_cons_succ, ← ih k]
      congr 1
      simp only [bitsVal]
      cases b <;> simp <;> omega

theorem bitsVal_lt (c : List Bool) : bitsVal c < 2 ^ c.length :=
  Nat.lt_pow_two_of_testBit _ fun k hk => by rw [bitsVal_testBit, List.getElem?_eq_none hk]; rfl

theorem chunk_roundtrip (c : List Bool) (hc : c.length ≤ 8) :
    bitsOfByte (byteOfBits c) = c ++ List.replicate (8 - c.length) false := by
  apply List.ext_getElem?
  intro k
  have hv : (byteOfBits c).toNat = bitsVal c :=
    UInt8.toNat_ofNat_of_lt' (Nat.lt_of_lt_of_le (bitsVal_lt c) (Nat.pow_le_pow_right (by decide) hc))
  by_cases hk : k < 8
  · rw [bitsOfByte_get _ _ hk, hv, bitsVal_testBit]
    by_cases hkc : k < c.length
    · rw [List.getElem?_append_left hkc, List.getElem?_eq_getElem hkc]
      rfl
    · rw [List.getElem?_append_right (by omega), List.getElem?_eq_none (by omega)]
      rw [List.getElem?_replicate]
      simp
      omega
  · rw [List.getElem?_eq_none (by rw [bitsOfByte_length]; omega),
        List.getElem?_eq_none (by simp; omega)]

theorem packBits_spec (fuel : Nat) (bs : List Bool) (hl : bs.length ≤ fuel) :
    ∃ pad, bitsOf (packBits fuel bs) = bs ++ pad ∧ (packBits fuel bs).length = (bs.length + 7) / 8 := by
  induction fuel generalizing bs with
  | zero =>
    obtain rfl := List.length_eq_zero_iff.mp (Nat.le_zero.mp hl)
    exact ⟨[], rfl, rfl⟩
  | succ fuel ih =>
    rw [packBits]
    split
    · rename_i he
      obtain rfl := List.isEmpty_iff.mp he
      exact ⟨[], rfl, rfl⟩
    · rename_i he
      have hpos : 0 < bs.length := List.length_pos_iff.mpr (by simpa using he)
      obtain ⟨pad', h1, h2⟩ := ih (bs.drop 8) (by rw [List.length_drop]; omega)
      refine ⟨List.replicate (8 - (bs.take 8).length) false ++ pad', ?_,
        by rw [List.length_cons, h2, List.length_drop]; omega⟩
      rw [bitsOf_cons, chunk_roundtrip _ (by rw [List.length_take]; omega), h1]
      -- a full chunk needs no padding; a short chunk is the last one
      by_cases h8 : 8 ≤ bs.length
      · rw [List.length_take, Nat.min_eq_left h8, Nat.sub_self]
        simp only [List.replicate_zero, List.append_nil, List.nil_append]
        rw [← List.append_assoc, List.take_append_drop]
      · rw [List.take_of_length_le (by omega), List.drop_eq_nil_of_le (by omega)]
        simp only [List.nil_append, List.append_assoc]

theorem bytesOfBits_spec (bs : List Bool) :
    ∃ pad, bitsOf (bytesOfBits bs) = bs ++ pad ∧ (bytesOfBits bs).length = (bs.length + 7) / 8 :=
  packBits_spec bs.length bs (Nat.le_refl _)

/-- the entries of a per-transaction list that lie below node `(h, p)` -/
def slice {α : Type} (h p : Nat) (l : List α) : List α := (l.drop (p * 2 ^ h)).take (2 ^ h)

theorem slice_succ {α : Type} (h p : Nat) (l : List α) :
    slice (h + 1) p l = slice h (2 * p) l ++ slice h (2 * p + 1) l := by
  unfold slice
  have e1 : 2 ^ (h + 1) = 2 ^ h + 2 ^ h := by rw [Nat.pow_succ, Nat.mul_two]
  have e2 : p * 2 ^ (h + 1) = 2 * p * 2 ^ h := by rw [Nat.pow_succ]; ac_rfl
  rw [e2, e1, Nat.succ_mul (2 * p), List.take_add, List.drop_drop]

theorem slice_out {α : Type} (h p : Nat) (l : List α) (ho : l.length ≤ p * 2 ^ h) : slice h p l = [] := by
  unfold slice
  rw [List.drop_eq_nil_of_le ho]
  simp

theorem slice_length {α : Type} (h p : Nat) (l : List α) :
    (slice h p l).length = min (2 ^ h) (l.length - p * 2 ^ h) := by
  simp [slice]

theorem slice_leaf {α : Type} (p : Nat) (l : List α) (hp : p < l.length) : slice 0 p l = [l[p]] := by
  unfold slice
  simp only [Nat.pow_zero, Nat.mul_one]
  rw [List.drop_eq_getElem_cons hp]
  simp [List.take]

theorem slice_top {α : Type} (D : Nat) (l : List α) (hD : l.length ≤ 2 ^ D) : slice D 0 l = l := by
  unfold slice
  simp only [Nat.zero_mul, List.drop_zero]
  exact List.take_of_length_le hD

theorem parentOfMatch_eq (matched : List Bool) (h p : Nat) :
    parentOfMatch matched h p = (slice h p matched).any id := rfl

theorem matchedIds_none (ts : List Bytes) (ms : List Bool) (hm : ms.any id = false) :
    matchedIds ts ms = [] := by
  induction ms generalizing ts with
  | nil => cases ts <;> simp [matchedIds]
  | cons m ms ih =>
    cases ts with
    | nil => simp [matchedIds]
    | cons t ts =>
      simp only [List.any_cons, id, Bool.or_eq_false_iff] at hm
      have := ih ts hm.2
      simp only [matchedIds] at this ⊢
      simp [hm.1, this]

theorem matchedIds_append (t1 t2 : List Bytes) (m1 m2 : List Bool) (hl : t1.length = m1.length) :
    matchedIds (t1 ++ t2) (m1 ++ m2) = matchedIds t1 m1 ++ matchedIds t2 m2 := by
  unfold matchedIds
  rw [List.zip_append hl, List.filterMap_append]

theorem no_right_leaves {n h q : Nat} (hq : ¬ q < width n h) : n ≤ q * 2 ^ h := by
  unfold width at hq
  have hp := Nat.two_pow_pos h
  have : (n + 2 ^ h - 1) / 2 ^ h ≤ q := by omega
  have := (Nat.div_le_iff_le_mul_add_pred hp).mp this
  rw [Nat.mul_comm] at this
  omega

def NoEqualSiblings (H : Bytes → Bytes) (txids : List Bytes) : Prop :=
  ∀ h p, 2 * p + 1 < width txids.length h → calcHash H txids h (2 * p) ≠ calcHash H txids h (2 * p + 1)

section
variable {H : Bytes → Bytes} {txids : List Bytes} {matched : List Bool} {h p : Nat}

/-- a node the builder does not descend into: nothing matched below it, or a leaf -/
theorem buildAux_hash (hnd : parentOfMatch matched h p = false ∨ h = 0) (acc : List Bool × List Bytes) :
    buildAux H txids matched h p acc =
      (acc.1 ++ [parentOfMatch matched h p], acc.2 ++ [calcHash H txids h p]) := by
  unfold buildAux
  rcases hnd with hpm | rfl
  · rw [hpm]
    cases h <;> rfl
  · cases parentOfMatch matched 0 p <;> rfl

theorem buildAux_node (hpm : parentOfMatch matched (h + 1) p = true) (acc : List Bool × List Bytes) :
    buildAux H txids matched (h + 1) p acc =
      let accL := buildAux H txids matched h (2 * p) (acc.1 ++ [true], acc.2)
      if 2 * p + 1 < width txids.length h then buildAux H txids matched h (2 * p + 1) accL else accL := by
  rw [buildAux.eq_def]
  simp only [hpm]

theorem matchedIds_slice_hash (hm : matched.length = txids.length) (hp : p < width txids.length h)
    (hnd : parentOfMatch matched h p = false ∨ h = 0) :
    matchedIds (slice h p txids) (slice h p matched) =
      if parentOfMatch matched h p then [calcHash H txids h p] else [] := by
  rcases hnd with hpm | rfl
  · rw [hpm, matchedIds_none _ (slice h p matched) hpm]
    rfl
  · rw [width_zero] at hp
    rw [parentOfMatch_eq, slice_leaf p txids hp, slice_leaf p matched (by omega), calcHash,
      List.getElem?_eq_getElem hp]
    cases matched[p] <;> rfl

end

theorem build_extract (H : Bytes → Bytes) (txids : List Bytes) (matched : List Bool)
    (hm : matched.length = txids.length) (hsib : NoEqualSiblings H txids) :
    ∀ (h p : Nat), p < width txids.length h → ∀ (b0 : List Bool) (h0 : List Bytes),
      ∃ db dh, buildAux H txids matched h p (b0, h0) = (b0 ++ db, h0 ++ dh) ∧
        ∀ (suf : List Bool) (sufh : List Bytes) (m : List Bytes),
          extractAux H txids.length (b0 ++ db ++ suf) (h0 ++ dh ++ sufh) h p ⟨b0.length, h0.length, m⟩ =
            some (calcHash H txids h p,
              ⟨(b0 ++ db).length, (h0 ++ dh).length,
               m ++ matchedIds (slice h p txids) (slice h p matched)⟩) := by
  intro h
  induction h using Nat.strongRecOn with
  | _ h ih =>
    intro p hp b0 h0
    by_cases hnd : parentOfMatch matched h p = false ∨ h = 0
    · refine ⟨[parentOfMatch matched h p], [calcHash H txids h p], buildAux_hash hnd (b0, h0),
        fun suf sufh m => ?_⟩
      rw [extractAux_hash (b := parentOfMatch matched h p) (by simp) (by simpa using hnd),
        matchedIds_slice_hash (H := H) hm hp hnd]
      cases parentOfMatch matched h p <;> simp
    · obtain ⟨h, rfl⟩ : ∃ k, h = k + 1 := ⟨h - 1, by omega⟩
      have hpm : parentOfMatch matched (h + 1) p = true := by simpa using hnd
      have ih := ih h (Nat.lt_succ_self h)
      obtain ⟨dbL, dhL, eL, xL⟩ := ih (2 * p) (left_lt hp) (b0 ++ [true]) h0
      rw [buildAux_node hpm, eL]
      by_cases hr : 2 * p + 1 < width txids.length h
      · obtain ⟨dbR, dhR, eR, xR⟩ := ih (2 * p + 1) hr (b0 ++ [true] ++ dbL) (h0 ++ dhL)
        refine ⟨[true] ++ dbL ++ dbR, dhL ++ dhR, by rw [if_pos hr, eR]; simp only [List.append_assoc],
          fun suf sufh m => ?_⟩
        have xl := xL (dbR ++ suf) (dhR ++ sufh) m
        have xr := xR suf sufh (m ++ matchedIds (slice h (2 * p) txids) (slice h (2 * p) matched))
        simp only [List.append_assoc, List.length_append, List.length_singleton] at xl xr ⊢
        rw [extractAux_node (by simp), xl]
        simp only [Option.bind_some, if_pos hr, xr, if_neg (hsib h p hr)]
        rw [calcHash, if_pos hr, slice_succ, slice_succ,
          matchedIds_append _ _ _ _ (by rw [slice_length, slice_length, hm])]
      · refine ⟨[true] ++ dbL, dhL, by rw [if_neg hr]; simp only [List.append_assoc],
          fun suf sufh m => ?_⟩
        have xl := xL suf sufh m
        simp only [List.append_assoc, List.length_append, List.length_singleton] at xl ⊢
        rw [extractAux_node (by simp), xl]
        simp only [Option.bind_some, if_neg hr]
        have ho := no_right_leaves hr
        rw [calcHash, if_neg hr, slice_succ, slice_succ,
          slice_out h (2 * p + 1) txids ho, slice_out h (2 * p + 1) matched (by omega)]
        simp only [List.append_nil]

theorem built_extract_top (H : Bytes → Bytes) (txids : List Bytes) (matched : List Bool)
    (hne : txids ≠ []) (hm : matched.length = txids.length) (hsib : NoEqualSiblings H txids) :
    extract H txids.length (build H txids matched).1 (build H txids matched).2 (rootByPosition H txids) =
      some (matchedIds txids matched) := by
  have hn : 1 ≤ txids.length := List.length_pos_iff.mpr hne
  have hD := height_isClog txids.length
  obtain ⟨db, dh, e, x⟩ := build_extract H txids matched hm hsib (height txids.length) 0
    (by rw [width_eq_one hn hD]; omega) [] []
  obtain ⟨pad, hb, hlen⟩ := bytesOfBits_spec db
  have hx := x pad [] []
  simp only [List.nil_append, List.append_nil, List.length_nil] at e hx
  rw [slice_top _ txids hD.1, slice_top _ matched (by rw [hm]; exact hD.1)] at hx
  have hbl := bitsOf_length (bytesOfBits db)
  rw [hb, hlen] at hbl
  rw [build, e, extract, if_neg (by omega)]
  simp only [hb, hx, hbl, rootByPosition,
    show (8 * ((db.length + 7) / 8) + 7) / 8 = (db.length + 7) / 8 by omega]
  simp

end CG.Proofs.Merkle
