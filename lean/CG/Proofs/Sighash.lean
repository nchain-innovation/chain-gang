import CG.Model.Sighash
import CG.Spec.LegacySighash
import CG.Base.Lemmas
/-! Lemmas for C02: the model's serialisations are the specification's layouts, the cache invariant,
    and the two preimages against `CG.Spec.Bip143` / `CG.Spec.LegacySighash`. -/
namespace CG.Proofs.Sighash
open CG CG.Model.TxSer CG.Model.Sighash
open CG.Spec.Bip143 (compactSize le64s le32 outpoint txOut)

theorem varInt_eq_compactSize (n : Nat) : varInt n = compactSize n := by
  simp only [varInt, compactSize, ← Nat.lt_add_one_iff]

def InI64 (x : Int) : Prop := -(2 ^ 63) ≤ x ∧ x < 2 ^ 63

theorem i64LE_eq_le64s (x : Int) (h : InI64 x) : i64LE x = le64s x := by
  unfold i64LE le64s
  obtain ⟨h1, h2⟩ := h
  congr 1
  by_cases hx : 0 ≤ x
  · rw [if_pos hx, Int.emod_eq_of_lt hx (by omega)]
  · rw [if_neg hx, ← Int.add_emod_right, Int.emod_eq_of_lt (by omega) (by omega), Int.add_comm]

theorem serOutPoint_eq (o : OutPoint) : serOutPoint o = outpoint o := rfl

theorem serTxOut_eq (o : TxOut) (h : InI64 o.satoshis) : serTxOut o = txOut o := by
  unfold serTxOut txOut
  rw [i64LE_eq_le64s _ h, varInt_eq_compactSize]

theorem serTxIn_eq (i : TxIn) : serTxIn i = Spec.LegacySighash.txIn i := by
  unfold serTxIn Spec.LegacySighash.txIn
  rw [varInt_eq_compactSize]
  rfl

theorem flatMap_serTxOut_eq (outs : List TxOut) (h : ∀ o ∈ outs, InI64 o.satoshis) :
    outs.flatMap serTxOut = (outs.map txOut).flatten :=
  congrArg List.flatten (List.map_congr_left fun o ho => serTxOut_eq o (h o ho))

/-! The model tests the type byte with masks, the specifications with `/` and `%`. -/

theorem acp_iff : ∀ ty : UInt8, (ty &&& SIGHASH_ANYONECANPAY ≠ 0) ↔ Spec.Bip143.anyoneCanPay ty = true :=
  UInt8.forall_of_fin (by decide +kernel)

theorem forkid_iff : ∀ ty : UInt8, (ty &&& SIGHASH_FORKID ≠ 0) ↔ Spec.Bip143.forkId ty = true :=
  UInt8.forall_of_fin (by decide +kernel)

theorem single_iff : ∀ ty : UInt8, (ty &&& 31 = SIGHASH_SINGLE) ↔ Spec.Bip143.isSingle ty = true :=
  UInt8.forall_of_fin (by decide +kernel)

theorem none_iff : ∀ ty : UInt8, (ty &&& 31 = SIGHASH_NONE) ↔ Spec.Bip143.isNone ty = true :=
  UInt8.forall_of_fin (by decide +kernel)

/-- the invariant: each slot is empty or holds the hash of the corresponding serialisation of THIS tx -/
structure CacheOk (H : Bytes → Bytes) (tx : Tx) (c : Cache) : Prop where
  prevouts : c.hashPrevouts = none ∨ c.hashPrevouts = some (H (prevoutsSer tx))
  sequence : c.hashSequence = none ∨ c.hashSequence = some (H (sequencesSer tx))
  outputs : c.hashOutputs = none ∨ c.hashOutputs = some (H (outputsSer tx))

theorem cacheOk_empty (H : Bytes → Bytes) (tx : Tx) : CacheOk H tx Cache.empty :=
  ⟨Or.inl rfl, Or.inl rfl, Or.inl rfl⟩

theorem useSlot_ok {slot : Option Bytes} {v : Bytes} (h : slot = none ∨ slot = some v) :
    useSlot slot v = (some v, v) := by
  rcases h with h | h <;> simp [useSlot, h]

theorem slot_ok_ite {slot : Option Bytes} {v : Bytes} (h : slot = none ∨ slot = some v) (b : Prop)
    [Decidable b] : (if b then some v else slot) = none ∨ (if b then some v else slot) = some v := by
  split
  · exact Or.inr rfl
  · exact h

theorem extractSubscript_no_panic (code : Bytes) (k : Nat) (s : String) :
    extractSubscript code k ≠ .panic s := by
  unfold extractSubscript
  split
  · exact nofun
  · simp only
    split
    · exact nofun
    · exact nofun

theorem preimage_cache (H : Bytes → Bytes) (tx : Tx) (n : Nat) (code : Bytes) (k : Nat) (sat : Int)
    (ty : UInt8) (c : Cache) (hc : CacheOk H tx c) :
    (preimage H tx n code k sat ty c).1 = (preimage H tx n code k sat ty Cache.empty).1 ∧
    CacheOk H tx (preimage H tx n code k sat ty c).2 := by
  cases hin : tx.inputs[n]? with
  | none =>
    simp only [preimage, hin, true_and]
    exact hc
  | some txIn =>
    cases hx : extractSubscript code k with
    | err e =>
      simp only [preimage, hin, hx, true_and]
      exact hc
    | panic s => exact absurd hx (extractSubscript_no_panic code k s)
    | ok sub =>
      -- Every `useSlot`, on `c` as on the empty cache, returns the fresh hash (`useSlot_ok`); with the
      -- projections pushed through the guarding `if`s the two preimages are the same term, and each
      -- slot of the new cache is `if b then some fresh else` the slot of `c`.
      have he := cacheOk_empty H tx
      simp only [preimage, hin, hx, useSlot_ok hc.prevouts, useSlot_ok hc.sequence, useSlot_ok hc.outputs,
        useSlot_ok he.prevouts, useSlot_ok he.sequence, useSlot_ok he.outputs, apply_ite Prod.snd,
        apply_ite Prod.fst, ite_self, true_and]
      exact ⟨slot_ok_ite hc.prevouts _, slot_ok_ite hc.sequence _, slot_ok_ite hc.outputs _⟩

theorem bip143Sighash_eq (H : Bytes → Bytes) (tx : Tx) (n : Nat) (code : Bytes) (k : Nat) (sat : Int)
    (ty : UInt8) (c : Cache) :
    bip143Sighash H tx n code k sat ty c
      = ((preimage H tx n code k sat ty c).1.map H, (preimage H tx n code k sat ty c).2) := by
  unfold bip143Sighash
  rcases preimage H tx n code k sat ty c with ⟨o, c'⟩
  cases o <;> rfl

theorem bip143Sighash_cache (H : Bytes → Bytes) (tx : Tx) (n : Nat) (code : Bytes) (k : Nat) (sat : Int)
    (ty : UInt8) (c : Cache) (hc : CacheOk H tx c) :
    (bip143Sighash H tx n code k sat ty c).1 = (bip143Sighash H tx n code k sat ty Cache.empty).1 ∧
    CacheOk H tx (bip143Sighash H tx n code k sat ty c).2 := by
  obtain ⟨h1, h2⟩ := preimage_cache H tx n code k sat ty c hc
  rw [bip143Sighash_eq, bip143Sighash_eq, h1]
  exact ⟨rfl, h2⟩

theorem answer_cache (fix : Bool) (H : Bytes → Bytes) (tx : Tx) (c : Cache) (hc : CacheOk H tx c) (r : Req) :
    (answerWith fix H tx c r).2 = (answerWith fix H tx Cache.empty r).2 ∧
    CacheOk H tx (answerWith fix H tx c r).1 := by
  unfold answerWith
  cases r.kind with
  | preimage => exact preimage_cache H tx r.nInput r.code r.k r.sat r.ty c hc
  | digest =>
    simp only [sighashWith]
    split
    · exact bip143Sighash_cache H tx r.nInput r.code r.k r.sat r.ty c hc
    · exact ⟨rfl, hc⟩
  | wallet => exact ⟨rfl, hc⟩

theorem run_cache (fix : Bool) (H : Bytes → Bytes) (tx : Tx) : ∀ (reqs : List Req) (c : Cache), CacheOk H tx c →
    (runWith fix H tx c reqs).2 = reqs.map (fun r => (answerWith fix H tx Cache.empty r).2) ∧
    CacheOk H tx (runWith fix H tx c reqs).1 := by
  intro reqs
  induction reqs with
  | nil =>
    intro c hc
    exact ⟨rfl, hc⟩
  | cons r rs ih =>
    intro c hc
    obtain ⟨h1, h2⟩ := answer_cache fix H tx c hc r
    obtain ⟨h3, h4⟩ := ih (answerWith fix H tx c r).1 h2
    simp only [runWith, List.map_cons]
    exact ⟨by rw [h1, h3], h4⟩

def ofSpec : Option Bytes → Outcome Bytes
  | some b => .ok b
  | none => .err "BadArgument"

theorem ofSpec_map (H : Bytes → Bytes) (o : Option Bytes) : (ofSpec o).map H = ofSpec (o.map H) := by
  cases o <;> rfl

def AmountsInRange (tx : Tx) : Prop := ∀ o ∈ tx.outputs, InI64 o.satoshis

theorem prevoutsSer_eq (tx : Tx) :
    prevoutsSer tx = (tx.inputs.map (fun i => outpoint i.prevOutput)).flatten := rfl

theorem sequencesSer_eq (tx : Tx) :
    sequencesSer tx = (tx.inputs.map (fun i => le32 i.sequence)).flatten := rfl

theorem outputsSer_eq (tx : Tx) (h : AmountsInRange tx) :
    outputsSer tx = (tx.outputs.map txOut).flatten := flatMap_serTxOut_eq _ h

theorem hashPrevouts_eq (H : Bytes → Bytes) (tx : Tx) (ty : UInt8) :
    (if ¬ ty &&& SIGHASH_ANYONECANPAY ≠ 0 then H (prevoutsSer tx) else zero32)
      = Spec.Bip143.hashPrevouts H tx ty := by
  simp only [acp_iff, Spec.Bip143.hashPrevouts, prevoutsSer_eq]
  cases Spec.Bip143.anyoneCanPay ty <;> rfl

theorem hashSequence_eq (H : Bytes → Bytes) (tx : Tx) (ty : UInt8) :
    (if ¬ ty &&& SIGHASH_ANYONECANPAY ≠ 0 ∧ ty &&& 31 ≠ SIGHASH_SINGLE ∧ ty &&& 31 ≠ SIGHASH_NONE
      then H (sequencesSer tx) else zero32) = Spec.Bip143.hashSequence H tx ty := by
  simp only [ne_eq, acp_iff, single_iff, none_iff, Spec.Bip143.hashSequence, sequencesSer_eq]
  cases Spec.Bip143.anyoneCanPay ty <;> cases Spec.Bip143.isSingle ty <;>
    cases Spec.Bip143.isNone ty <;> rfl

theorem hashOutputs_eq (H : Bytes → Bytes) (tx : Tx) (n : Nat) (ty : UInt8) (hout : AmountsInRange tx) :
    (if ty &&& 31 ≠ SIGHASH_SINGLE ∧ ty &&& 31 ≠ SIGHASH_NONE then H (outputsSer tx)
      else if ty &&& 31 = SIGHASH_SINGLE ∧ n < tx.outputs.length then
        match tx.outputs[n]? with | some o => H (serTxOut o) | none => zero32
      else zero32) = Spec.Bip143.hashOutputs H tx n ty := by
  simp only [ne_eq, single_iff, none_iff, Spec.Bip143.hashOutputs, outputsSer_eq tx hout]
  cases Spec.Bip143.isSingle ty
  · cases Spec.Bip143.isNone ty <;> rfl
  · cases ho : tx.outputs[n]? with
    | none => simp [zero32, Spec.Bip143.zeros32]
    | some o =>
      have hn := (List.getElem?_eq_some_iff.mp ho).1
      simp [hn, serTxOut_eq o (hout o (List.mem_of_getElem? ho))]

theorem preimage_eq_specOf (H : Bytes → Bytes) (tx : Tx) (n : Nat) (code : Bytes) (k : Nat) (sat : Int)
    (ty : UInt8) (hsat : InI64 sat) (hout : AmountsInRange tx) (sc : Bytes)
    (hm : extractSubscript code k = .ok sc) :
    (preimage H tx n code k sat ty Cache.empty).1
      = ofSpec (Spec.Bip143.preimageOf H tx n sc sat ty) := by
  cases hin : tx.inputs[n]? with
  | none =>
    simp only [preimage, Spec.Bip143.preimageOf, hin]
    rfl
  | some txIn =>
    have he := cacheOk_empty H tx
    simp only [preimage, Spec.Bip143.preimageOf, hin, hm, useSlot_ok he.prevouts, useSlot_ok he.sequence,
      useSlot_ok he.outputs, apply_ite Prod.snd, hashPrevouts_eq, hashSequence_eq, varInt_eq_compactSize,
      i64LE_eq_le64s sat hsat, ofSpec, List.append_assoc]
    -- The `match` in `preimage` and the one in the statement of `hashOutputs_eq` are two auxiliary
    -- definitions with the same unfolding: rewriting cannot see through them, `rfl` can.
    rw [← hashOutputs_eq H tx n ty hout]
    rfl

theorem preimage_oob (H : Bytes → Bytes) (tx : Tx) (n : Nat) (code : Bytes) (k : Nat) (sat : Int)
    (ty : UInt8) (c : Cache) (h : tx.inputs.length ≤ n) :
    preimage H tx n code k sat ty c = (.err "BadArgument", c) := by
  unfold preimage
  rw [List.getElem?_eq_none h]

theorem legacy_oob (fix : Bool) (tx : Tx) (n : Nat) (code : Bytes) (k : Nat) (ty : UInt8)
    (h : tx.inputs.length ≤ n) : legacyPreimageWith fix tx n code k ty = .err "BadArgument" := by
  unfold legacyPreimageWith
  simp [h]

theorem preimage_no_panic (H : Bytes → Bytes) (tx : Tx) (n : Nat) (code : Bytes) (k : Nat) (sat : Int)
    (ty : UInt8) (c : Cache) (s : String) : (preimage H tx n code k sat ty c).1 ≠ .panic s := by
  unfold preimage
  split
  · exact nofun
  · split
    · exact nofun
    · next s' hx => exact absurd hx (extractSubscript_no_panic code k s')
    · exact nofun

theorem legacyPreimageWith_no_panic (fix : Bool) (tx : Tx) (n : Nat) (code : Bytes) (k : Nat) (ty : UInt8)
    (s : String) : legacyPreimageWith fix tx n code k ty ≠ .panic s := by
  unfold legacyPreimageWith
  by_cases hn : n ≥ tx.inputs.length
  · rw [if_pos hn]
    exact nofun
  · rw [if_neg hn]
    cases hx : extractSubscript code k with
    | err e => exact nofun
    | panic s' => exact absurd hx (extractSubscript_no_panic code k s')
    | ok sub =>
      by_cases c1 : ty &&& 31 = SIGHASH_NONE
      · simp only [if_pos c1]
        exact nofun
      · by_cases c2 : ty &&& 31 = SIGHASH_SINGLE
        · by_cases c3 : n ≥ tx.outputs.length
          · simp only [if_neg c1, if_pos c2, if_pos c3]
            exact nofun
          · simp only [if_neg c1, if_pos c2, if_neg c3]
            exact nofun
        · simp only [if_neg c1, if_neg c2]
          exact nofun

theorem mapIdx_eq_zipWith_range {α β} (f : Nat → α → β) (l : List α) :
    l.mapIdx f = List.zipWith f (List.range l.length) l := by
  rw [List.mapIdx_eq_zipIdx_map, List.zipIdx_eq_zip_range', List.range_eq_range', List.zip_eq_zipWith,
    List.map_zipWith]
  exact List.zipWith_comm

theorem single_outputs {α} (z : α) : ∀ (n : Nat) (l : List α), n < l.length →
    (l.take (n + 1)).mapIdx (fun i o => if i < n then z else o) = List.replicate n z ++ (l.drop n).take 1 := by
  intro n
  induction n with
  | zero =>
    intro l h
    cases l with
    | nil => simp at h
    | cons a t => simp
  | succ n ih =>
    intro l h
    cases l with
    | nil => simp at h
    | cons a t =>
      have h' : n < t.length := by simpa using h
      have := ih t h'
      simp only [List.take_succ_cons, List.mapIdx_cons, Nat.zero_lt_succ, if_true, List.replicate_succ,
        List.cons_append, List.drop_succ_cons, List.cons.injEq, true_and]
      rw [← this]
      congr 1
      funext i o
      simp

theorem legacyInputs_eq (tx : Tx) (n : Nat) (sc : Bytes) (ty : UInt8) (hn : n < tx.inputs.length) :
    legacyInputs tx n sc (ty &&& 31) (decide (ty &&& SIGHASH_ANYONECANPAY ≠ 0))
      = Spec.LegacySighash.inputsFor tx n sc ty := by
  simp only [legacyInputs, Spec.LegacySighash.inputsFor, decide_eq_true_eq, acp_iff, none_iff, single_iff,
    Bool.or_eq_true, ← mapIdx_eq_zipWith_range]
  split
  · simp [List.take_one, hn]
  · rfl

theorem flatMap_serTxIn_eq (ins : List TxIn) :
    ins.flatMap serTxIn = (ins.map Spec.LegacySighash.txIn).flatten :=
  congrArg List.flatten (List.map_congr_left fun i _ => serTxIn_eq i)

theorem legacy_layout_eq (tx : Tx) (ins : List TxIn) (outs : List TxOut) (ty : UInt8)
    (hr : ∀ o ∈ outs, InI64 o.satoshis) :
    u32LE tx.version ++ varInt ins.length ++ ins.flatMap serTxIn ++ varInt outs.length ++
        outs.flatMap serTxOut ++ u32LE tx.lockTime ++ u32LE ty.toNat
      = le32 tx.version ++ compactSize ins.length ++ (ins.map Spec.LegacySighash.txIn).flatten ++
        compactSize outs.length ++ (outs.map txOut).flatten ++ le32 tx.lockTime ++ le32 ty.toNat := by
  rw [varInt_eq_compactSize, varInt_eq_compactSize, flatMap_serTxIn_eq, flatMap_serTxOut_eq _ hr]
  rfl

theorem legacyPreimage_eq_specOf (tx : Tx) (n : Nat) (code : Bytes) (k : Nat) (ty : UInt8)
    (hout : AmountsInRange tx) (sc : Bytes) (hm : extractSubscript code k = .ok sc) :
    legacyPreimage tx n code k ty = ofSpec (Spec.LegacySighash.preimageOf tx n sc ty) := by
  unfold legacyPreimage legacyPreimageWith Spec.LegacySighash.preimageOf
  by_cases hn : n < tx.inputs.length
  · have hlen : (if decide (ty &&& SIGHASH_ANYONECANPAY ≠ 0) = true then 1 else tx.inputs.length)
        = (Spec.LegacySighash.inputsFor tx n sc ty).length := by
      rw [← legacyInputs_eq tx n sc ty hn, legacyInputs, List.getElem?_eq_getElem hn]
      split <;> simp
    simp only [Nat.not_le.mpr hn, if_false, hm, hn, if_true, hlen, legacyInputs_eq tx n sc ty hn,
      Spec.LegacySighash.outputsFor, none_iff, single_iff]
    cases Spec.Bip143.isNone ty
    · cases Spec.Bip143.isSingle ty
      · exact congrArg Outcome.ok (legacy_layout_eq tx _ _ ty hout)
      · by_cases ho : n < tx.outputs.length
        · simp only [Nat.not_le.mpr ho, ho, if_true, if_false, Bool.false_eq_true, single_outputs _ n tx.outputs ho]
          refine congrArg Outcome.ok (legacy_layout_eq tx _ _ ty fun o hmem => ?_)
          rcases List.mem_append.mp hmem with h | h
          · rw [List.eq_of_mem_replicate h]
            exact ⟨by decide, by decide⟩
          · exact hout o (List.mem_of_mem_drop (List.mem_of_mem_take h))
        · simp [ho, Nat.le_of_not_lt ho, ofSpec]
    · exact congrArg Outcome.ok (legacy_layout_eq tx _ [] ty (by simp))
  · simp [Nat.le_of_not_lt hn, hn, ofSpec]

end CG.Proofs.Sighash
