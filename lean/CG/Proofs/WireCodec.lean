import CG.Model.Wire.Codec
/-!
Laws of the wire codec combinators, proved once.

`Lawful c`    — `c` can be followed by anything:  `dec (enc a ++ r) = ok (a, r)`.
`LawfulEnd c` — `c` is only used as the last field of a payload: `dec (enc a) = ok (a, [])`
                (Version's optional association id, Createstrm's optional policy).
Both carry `size_eq`, `dec_wf` (whatever decodes is in range — hence decode → encode → decode is a
fixpoint) and `dec_suffix` (the decoder consumes a prefix).  Each combinator law is proved for
`LawfulOn P c` — encodings followed by a rest satisfying `P` — of which the two are the cases `P := True`
and `P r := r = []`.
-/
namespace CG.Model.Wire
open CG

structure Lawful {α} (c : Codec α) : Prop where
  dec_enc : ∀ a r, c.wf a → c.dec (c.enc a ++ r) = .ok (a, r)
  size_eq : ∀ a, c.wf a → (c.enc a).length = c.size a
  dec_wf : ∀ b a r, c.dec b = .ok (a, r) → c.wf a
  dec_suffix : ∀ b a r, c.dec b = .ok (a, r) → ∃ p, b = p ++ r

structure LawfulEnd {α} (c : Codec α) : Prop where
  dec_enc : ∀ a, c.wf a → c.dec (c.enc a) = .ok (a, [])
  size_eq : ∀ a, c.wf a → (c.enc a).length = c.size a
  dec_wf : ∀ b a r, c.dec b = .ok (a, r) → c.wf a
  dec_suffix : ∀ b a r, c.dec b = .ok (a, r) → ∃ p, b = p ++ r

/-- A combinator that passes the rest on to its last component is lawful on `P` when that
    component is, so its law is proved once, for every `P`. -/
structure LawfulOn (P : Bytes → Prop) {α} (c : Codec α) : Prop where
  dec_enc : ∀ a r, P r → c.wf a → c.dec (c.enc a ++ r) = .ok (a, r)
  size_eq : ∀ a, c.wf a → (c.enc a).length = c.size a
  dec_ok : ∀ b a r, c.dec b = .ok (a, r) → c.wf a ∧ ∃ p, b = p ++ r

theorem Lawful.on {α} {c : Codec α} (h : Lawful c) (P : Bytes → Prop) : LawfulOn P c where
  dec_enc a r _ := h.dec_enc a r
  size_eq := h.size_eq
  dec_ok b a r hd := ⟨h.dec_wf b a r hd, h.dec_suffix b a r hd⟩

theorem LawfulEnd.on {α} {c : Codec α} (h : LawfulEnd c) : LawfulOn (· = []) c where
  dec_enc a r hr hw := by
    subst hr
    rw [List.append_nil]
    exact h.dec_enc a hw
  size_eq := h.size_eq
  dec_ok b a r hd := ⟨h.dec_wf b a r hd, h.dec_suffix b a r hd⟩

theorem LawfulOn.lawful {α} {c : Codec α} (h : LawfulOn (fun _ => True) c) : Lawful c where
  dec_enc a r := h.dec_enc a r trivial
  size_eq := h.size_eq
  dec_wf b a r hd := (h.dec_ok b a r hd).1
  dec_suffix b a r hd := (h.dec_ok b a r hd).2

theorem LawfulOn.toEnd {α} {c : Codec α} (h : LawfulOn (· = []) c) : LawfulEnd c where
  dec_enc a hw := by simpa using h.dec_enc a [] rfl hw
  size_eq := h.size_eq
  dec_wf b a r hd := (h.dec_ok b a r hd).1
  dec_suffix b a r hd := (h.dec_ok b a r hd).2

theorem Lawful.toEnd {α} {c : Codec α} (h : Lawful c) : LawfulEnd c := (h.on _).toEnd

theorem LawfulEnd.fixpoint {α} {c : Codec α} (h : LawfulEnd c) {b a r} (hd : c.dec b = .ok (a, r)) :
    c.dec (c.enc a) = .ok (a, []) := h.dec_enc a (h.dec_wf b a r hd)

theorem Lawful.fixpoint {α} {c : Codec α} (h : Lawful c) {b a r} (hd : c.dec b = .ok (a, r))
    (r' : Bytes) : c.dec (c.enc a ++ r') = .ok (a, r') := h.dec_enc a r' (h.dec_wf b a r hd)

theorem LawfulEnd.roundtrip {α} {c : Codec α} (h : LawfulEnd c) {b a r} (hd : c.dec b = .ok (a, r)) :
    c.wf a ∧ c.dec (c.enc a) = .ok (a, []) ∧
    (∀ a' r', c.dec (c.enc a) = .ok (a', r') → c.enc a' = c.enc a) ∧ ∃ p, b = p ++ r := by
  refine ⟨h.dec_wf b a r hd, h.fixpoint hd, ?_, h.dec_suffix b a r hd⟩
  -- the third part follows from the second: `dec` is a function
  intro a' r' hd'
  rw [h.fixpoint hd] at hd'
  injection hd' with hd'
  injection hd' with e _
  rw [e]

theorem LawfulEnd.enc_inj {α} {c : Codec α} (h : LawfulEnd c) {a a' : α} (ha : c.wf a) (ha' : c.wf a')
    (e : c.enc a = c.enc a') : a = a' := by
  have h1 := h.dec_enc a ha
  rw [e, h.dec_enc a' ha'] at h1
  injection h1 with h1
  injection h1 with h1
  exact h1.symm

theorem suffix_trans {b r1 r : Bytes} (h1 : ∃ p, b = p ++ r1) (h2 : ∃ p, r1 = p ++ r) : ∃ p, b = p ++ r := by
  obtain ⟨p1, rfl⟩ := h1
  obtain ⟨p2, rfl⟩ := h2
  exact ⟨p1 ++ p2, (List.append_assoc ..).symm⟩

theorem takeExact_none_or {n : Nat} {b : Bytes} :
    takeExact n b = none ∨ ∃ x r, takeExact n b = some (x, r) := by
  cases h : takeExact n b with
  | none => exact .inl rfl
  | some p => exact .inr ⟨p.1, p.2, rfl⟩

/-- the decoder shape of the fixed-width fields: `read_exact` of `n` bytes, then `f`.  By definition
    `(uLE n).dec`, `(uBE n).dec` and `(bytesN n).dec` are `readN f n` for `f` = `leToNat`,
    `leToNat ∘ reverse` and the identity. -/
def readN {α} (f : Bytes → α) (n : Nat) (b : Bytes) : Outcome (α × Bytes) :=
  match takeExact n b with
  | some (x, r) => .ok (f x, r)
  | none => .err "IoError"

theorem readN_append {α} (f : Bytes → α) (x r : Bytes) : readN f x.length (x ++ r) = .ok (f x, r) := by
  simp only [readN, takeExact_append]

theorem readN_ok {α} {f : Bytes → α} {n : Nat} {b r : Bytes} {a : α} (h : readN f n b = .ok (a, r)) :
    ∃ x, b = x ++ r ∧ x.length = n ∧ f x = a := by
  unfold readN at h
  split at h
  · rename_i x r' hx
    simp only [Outcome.ok.injEq, Prod.mk.injEq] at h
    obtain ⟨rfl, rfl⟩ := h
    exact ⟨x, (takeExact_some hx).1, (takeExact_some hx).2, rfl⟩
  · simp at h

theorem uLE_lawful (n : Nat) : Lawful (uLE n) := LawfulOn.lawful
  { dec_enc a r _ h := by
      have := readN_append leToNat (natToLEn n a) r
      rw [natToLEn_length, leToNat_natToLEn, Nat.mod_eq_of_lt h] at this
      exact this
    size_eq a _ := natToLEn_length n a
    dec_ok b a r h := by
      obtain ⟨x, hb, hl, rfl⟩ := readN_ok (f := leToNat) h
      exact ⟨hl ▸ leToNat_lt x, x, hb⟩ }

theorem u8_lawful : Lawful u8 := uLE_lawful 1
theorem u16_lawful : Lawful u16 := uLE_lawful 2
theorem u32_lawful : Lawful u32 := uLE_lawful 4
theorem u64_lawful : Lawful u64 := uLE_lawful 8

theorem uBE_lawful (n : Nat) : Lawful (uBE n) := LawfulOn.lawful
  { dec_enc a r _ h := by
      have := readN_append (fun x => leToNat x.reverse) (natToLEn n a).reverse r
      rw [List.length_reverse, natToLEn_length, List.reverse_reverse, leToNat_natToLEn,
        Nat.mod_eq_of_lt h] at this
      exact this
    size_eq a _ := by simp [uBE]
    dec_ok b a r h := by
      obtain ⟨x, hb, hl, rfl⟩ := readN_ok (f := fun x => leToNat x.reverse) h
      exact ⟨by have := leToNat_lt x.reverse; rwa [List.length_reverse, hl] at this, x, hb⟩ }

theorem u16be_lawful : Lawful u16be := uBE_lawful 2

/-- the residue of an in-range signed value, written without `%` -/
theorem ofSigned_eq (M : Nat) (x : Int) (h1 : -(M : Int) ≤ 2 * x) (h2 : 2 * x < (M : Int)) :
    ofSigned M x = if x < 0 then (x + M).toNat else x.toNat := by
  unfold ofSigned
  by_cases hx : 0 ≤ x
  · rw [Int.emod_eq_of_lt hx (by omega), if_neg (by omega)]
  · rw [← Int.add_emod_right x M, Int.emod_eq_of_lt (by omega) (by omega), if_pos (by omega)]

theorem toSigned_ofSigned (M : Nat) (x : Int) (h1 : -(M : Int) ≤ 2 * x) (h2 : 2 * x < (M : Int)) :
    toSigned M (ofSigned M x) = x ∧ ofSigned M x < M := by
  rw [ofSigned_eq M x h1 h2]
  unfold toSigned
  split <;> split <;> omega

theorem toSigned_range (M u : Nat) (hu : u < M) :
    -(M : Int) ≤ 2 * toSigned M u ∧ 2 * toSigned M u < (M : Int) := by
  unfold toSigned
  split <;> omega

theorem iLE_lawful (n : Nat) : Lawful (iLE n) := LawfulOn.lawful
  { dec_enc a r _ h := by
      obtain ⟨e1, e2⟩ := toSigned_ofSigned (256 ^ n) a h.1 h.2
      have e : (uLE n).dec (natToLEn n (ofSigned (256 ^ n) a) ++ r) = .ok (ofSigned (256 ^ n) a, r) :=
        (uLE_lawful n).dec_enc _ r e2
      simp only [iLE, e, bind_ok, e1]
    size_eq a _ := natToLEn_length n _
    dec_ok b a r h := by
      simp only [iLE, bind_eq_ok, Outcome.ok.injEq, Prod.mk.injEq] at h
      obtain ⟨⟨u, r'⟩, hu, rfl, rfl⟩ := h
      exact ⟨toSigned_range _ _ ((uLE_lawful n).dec_wf _ _ _ hu), (uLE_lawful n).dec_suffix _ _ _ hu⟩ }

theorem i32_lawful : Lawful i32 := iLE_lawful 4
theorem i64_lawful : Lawful i64 := iLE_lawful 8

theorem u8_dec_cons (x : UInt8) (r : Bytes) : u8.dec (x :: r) = .ok (x.toNat, r) := by
  simp [u8, uLE, takeExact, leToNat]

theorem u8_dec_nil : u8.dec [] = .err "IoError" := by
  simp [u8, uLE, takeExact]

theorem boolByte_lawful : Lawful boolByte := LawfulOn.lawful
  { dec_enc a r _ _ := by cases a <;> simp [boolByte, u8_dec_cons]
    size_eq a _ := rfl
    dec_ok b a r h := by
      simp only [boolByte, bind_eq_ok, Outcome.ok.injEq, Prod.mk.injEq] at h
      obtain ⟨⟨u, r'⟩, hu, _, rfl⟩ := h
      exact ⟨trivial, u8_lawful.dec_suffix _ _ _ hu⟩ }

theorem varint_dec_ok {b r : Bytes} {n : Nat} (h : varint.dec b = .ok (n, r)) :
    ∃ t r0, u8.dec b = .ok (t, r0) ∧
      ((n = t ∧ r = r0) ∨ ∃ k, k ≤ 8 ∧ (uLE k).dec r0 = .ok (n, r)) := by
  obtain ⟨⟨t, r0⟩, h0, h⟩ := bind_eq_ok.1 h
  refine ⟨t, r0, h0, ?_⟩
  split at h
  · exact .inr ⟨8, by decide, h⟩
  · split at h
    · exact .inr ⟨4, by decide, h⟩
    · split at h
      · exact .inr ⟨2, by decide, h⟩
      · simp only [Outcome.ok.injEq, Prod.mk.injEq] at h
        exact .inl ⟨h.1.symm, h.2.symm⟩

theorem varint_lawful : Lawful varint := LawfulOn.lawful
  { dec_enc n r _ h := by
      have h : n < 18446744073709551616 := h
      simp only [varint]
      split
      · have e : u8.dec (natToLEn 1 n ++ r) = .ok (n, r) := u8_lawful.dec_enc n r (show n < 256 ^ 1 by omega)
        rw [e, bind_ok, if_neg (by omega), if_neg (by omega), if_neg (by omega)]
      · split
        · simp only [List.cons_append, u8_dec_cons, bind_ok]
          rw [if_neg (by decide), if_neg (by decide), if_pos (by decide)]
          exact u16_lawful.dec_enc n r (show n < 256 ^ 2 by omega)
        · split
          · simp only [List.cons_append, u8_dec_cons, bind_ok]
            rw [if_neg (by decide), if_pos (by decide)]
            exact u32_lawful.dec_enc n r (show n < 256 ^ 4 by omega)
          · simp only [List.cons_append, u8_dec_cons, bind_ok]
            rw [if_pos (by decide)]
            exact u64_lawful.dec_enc n r (show n < 256 ^ 8 by omega)
    size_eq n _ := by
      simp only [varint]
      split
      · rfl
      · split
        · rfl
        · split <;> rfl
    dec_ok b n r h := by
      obtain ⟨t, r0, h0, h⟩ := varint_dec_ok h
      have w0 : t < 256 ^ 1 := u8_lawful.dec_wf _ _ _ h0
      have s0 := u8_lawful.dec_suffix _ _ _ h0
      rcases h with ⟨rfl, rfl⟩ | ⟨k, hk, hd⟩
      · exact ⟨show n < 2 ^ 64 by omega, s0⟩
      · have hn : n < 256 ^ k := (uLE_lawful k).dec_wf _ _ _ hd
        exact ⟨Nat.lt_of_lt_of_le hn (Nat.pow_le_pow_right (by decide) hk),
          suffix_trans s0 ((uLE_lawful k).dec_suffix _ _ _ hd)⟩ }

theorem varint_size_classes (n : Nat) :
    varint.size n = if n ≤ 252 then 1 else if n ≤ 65535 then 3 else if n ≤ 4294967295 then 5 else 9 := rfl

theorem bytesN_lawful (n : Nat) : Lawful (bytesN n) := LawfulOn.lawful
  { dec_enc a r _ h := by
      cases h
      exact readN_append id a r
    size_eq a h := h
    dec_ok b a r h := by
      obtain ⟨x, hb, hl, rfl⟩ := readN_ok (f := id) h
      exact ⟨hl, x, hb⟩ }

theorem vecBytes_lawful (n : Nat) : Lawful (vecBytes n) where
  dec_enc := (bytesN_lawful n).dec_enc
  size_eq _ _ := rfl
  dec_wf := (bytesN_lawful n).dec_wf
  dec_suffix := (bytesN_lawful n).dec_suffix

theorem skipByte_lawful : Lawful skipByte := LawfulOn.lawful
  { dec_enc a r _ _ := rfl
    size_eq a _ := rfl
    dec_ok b a r h := by
      cases b with
      | nil =>
        simp only [skipByte, Outcome.ok.injEq, Prod.mk.injEq] at h
        exact ⟨trivial, [], by rw [← h.2]; rfl⟩
      | cons x r' =>
        simp only [skipByte, Outcome.ok.injEq, Prod.mk.injEq] at h
        exact ⟨trivial, [x], by rw [← h.2]; rfl⟩ }

theorem dpair_dec_ok {α β} {ca : Codec α} {cb : α → Codec β} {b r : Bytes} {p : α × β}
    (h : (dpair ca cb).dec b = .ok (p, r)) :
    ∃ r1, ca.dec b = .ok (p.1, r1) ∧ (cb p.1).dec r1 = .ok (p.2, r) := by
  obtain ⟨x, hx, h⟩ := bind_eq_ok.1 h
  obtain ⟨y, hy, h⟩ := bind_eq_ok.1 h
  simp only [Outcome.ok.injEq, Prod.mk.injEq] at h
  obtain ⟨rfl, rfl⟩ := h
  exact ⟨x.2, hx, hy⟩

/-- a composable prefix passes the rest on to what follows it -/
theorem dpair_lawfulOn {P : Bytes → Prop} {α β} {ca : Codec α} {cb : α → Codec β} (ha : Lawful ca)
    (hb : ∀ a, LawfulOn P (cb a)) : LawfulOn P (dpair ca cb) where
  dec_enc p r hr h := by
    simp only [dpair, List.append_assoc, ha.dec_enc p.1 _ h.1, bind_ok, (hb p.1).dec_enc p.2 r hr h.2]
  size_eq p h := by
    simp only [dpair, List.length_append, ha.size_eq p.1 h.1, (hb p.1).size_eq p.2 h.2]
  dec_ok b p r h := by
    obtain ⟨r1, h1, h2⟩ := dpair_dec_ok h
    obtain ⟨w2, s2⟩ := (hb p.1).dec_ok _ _ _ h2
    exact ⟨⟨ha.dec_wf _ _ _ h1, w2⟩, suffix_trans (ha.dec_suffix _ _ _ h1) s2⟩

theorem dpair_lawful {α β} {ca : Codec α} {cb : α → Codec β} (ha : Lawful ca)
    (hb : ∀ a, Lawful (cb a)) : Lawful (dpair ca cb) :=
  (dpair_lawfulOn ha fun a => (hb a).on _).lawful

theorem pair_lawful {α β} {ca : Codec α} {cb : Codec β} (ha : Lawful ca) (hb : Lawful cb) :
    Lawful (ca ⊗ cb) := dpair_lawful ha (fun _ => hb)

theorem pair_lawfulEnd {α β} {ca : Codec α} {cb : Codec β} (ha : Lawful ca) (hb : LawfulEnd cb) :
    LawfulEnd (ca ⊗ cb) := (dpair_lawfulOn ha fun _ => hb.on).toEnd

theorem optWf_some {α} {p : α → Prop} {o : Option α} (h : optWf p o) : ∃ a, o = some a ∧ p a := by
  cases o with
  | none => exact h.elim
  | some a => exact ⟨a, rfl, h⟩

theorem inj_lawfulOn {P : Bytes → Prop} {α β} {c : Codec α} {f : α → β} {g : β → Option α} {d : α}
    (hc : LawfulOn P c) (h1 : ∀ b a, g b = some a → f a = b) (h2 : ∀ a, c.wf a → g (f a) = some a) :
    LawfulOn P (inj c f g d) where
  dec_enc b r hr h := by
    obtain ⟨a, e, hw⟩ := optWf_some h
    simp only [inj, e, Option.getD_some, hc.dec_enc a r hr hw, bind_ok, h1 b a e]
  size_eq b h := by
    obtain ⟨a, e, hw⟩ := optWf_some h
    simp only [inj, e, Option.getD_some, hc.size_eq a hw]
  dec_ok x b r h := by
    simp only [inj, bind_eq_ok, Outcome.ok.injEq, Prod.mk.injEq] at h
    obtain ⟨⟨a, r1⟩, hd, rfl, rfl⟩ := h
    obtain ⟨hw, hp⟩ := hc.dec_ok _ _ _ hd
    refine ⟨?_, hp⟩
    show optWf c.wf (g (f a))
    rw [h2 a hw]
    exact hw

theorem inj_lawful {α β} {c : Codec α} {f : α → β} {g : β → Option α} {d : α} (hc : Lawful c)
    (h1 : ∀ b a, g b = some a → f a = b) (h2 : ∀ a, c.wf a → g (f a) = some a) :
    Lawful (inj c f g d) := (inj_lawfulOn (hc.on _) h1 h2).lawful

theorem iso_lawfulOn {P : Bytes → Prop} {α β} {c : Codec α} {f : α → β} {g : β → α}
    (hc : LawfulOn P c) (h1 : ∀ b, f (g b) = b) (h2 : ∀ a, c.wf a → g (f a) = a) :
    LawfulOn P (iso c f g) where
  dec_enc b r hr h := by
    simp only [iso, hc.dec_enc (g b) r hr h, bind_ok, h1]
  size_eq b h := hc.size_eq (g b) h
  dec_ok x b r h := by
    simp only [iso, bind_eq_ok, Outcome.ok.injEq, Prod.mk.injEq] at h
    obtain ⟨⟨a, r1⟩, hd, rfl, rfl⟩ := h
    obtain ⟨hw, hp⟩ := hc.dec_ok _ _ _ hd
    refine ⟨?_, hp⟩
    show c.wf (g (f a))
    rw [h2 a hw]
    exact hw

/-- The inverse laws default to `rfl`: that proves them whenever `f` and `g` only repackage a
    structure as the tuple of its fields. -/
theorem iso_lawful {α β} {c : Codec α} {f : α → β} {g : β → α} (hc : Lawful c)
    (h1 : ∀ b, f (g b) = b := by intro _; rfl) (h2 : ∀ a, c.wf a → g (f a) = a := by intro _ _; rfl) :
    Lawful (iso c f g) :=
  (iso_lawfulOn (hc.on _) h1 h2).lawful

theorem iso_lawfulEnd {α β} {c : Codec α} {f : α → β} {g : β → α} (hc : LawfulEnd c)
    (h1 : ∀ b, f (g b) = b := by intro _; rfl) (h2 : ∀ a, c.wf a → g (f a) = a := by intro _ _; rfl) :
    LawfulEnd (iso c f g) :=
  (iso_lawfulOn hc.on h1 h2).toEnd

theorem refine_lawfulOn {P : Bytes → Prop} {α} {c : Codec α} (hc : LawfulOn P c) (p : α → Bool)
    (e : String) : LawfulOn P (refine c p e) where
  dec_enc a r hr h := by
    simp only [refine, hc.dec_enc a r hr h.1, bind_ok, h.2, if_true]
  size_eq a h := hc.size_eq a h.1
  dec_ok b a r h := by
    simp only [refine, bind_eq_ok] at h
    obtain ⟨⟨a', r1⟩, hd, h⟩ := h
    split at h
    · rename_i hp
      simp only [Outcome.ok.injEq, Prod.mk.injEq] at h
      obtain ⟨rfl, rfl⟩ := h
      obtain ⟨hw, hs⟩ := hc.dec_ok _ _ _ hd
      exact ⟨⟨hw, hp⟩, hs⟩
    · simp at h

theorem refine_lawful {α} {c : Codec α} (hc : Lawful c) (p : α → Bool) (e : String) :
    Lawful (refine c p e) := (refine_lawfulOn (hc.on _) p e).lawful

theorem refine_lawfulEnd {α} {c : Codec α} (hc : LawfulEnd c) (p : α → Bool) (e : String) :
    LawfulEnd (refine c p e) := (refine_lawfulOn hc.on p e).toEnd

theorem validated_lawfulOn {P : Bytes → Prop} {α} {c : Codec α} (hc : LawfulOn P c)
    (v : α → Outcome Unit) : LawfulOn P (validated c v) where
  dec_enc a r hr h := by
    simp only [validated, hc.dec_enc a r hr h.1, bind_ok, h.2]
  size_eq a h := hc.size_eq a h.1
  dec_ok b a r h := by
    simp only [validated, bind_eq_ok, Outcome.ok.injEq] at h
    obtain ⟨_, hd, u, hv, rfl⟩ := h
    obtain ⟨hw, hs⟩ := hc.dec_ok _ _ _ hd
    exact ⟨⟨hw, hv⟩, hs⟩

theorem failAfter_lawful {α β} (c : Codec α) (e : String) : Lawful (failAfter c e : Codec β) :=
  LawfulOn.lawful
  { dec_enc _ _ _ h := h.elim
    size_eq _ h := h.elim
    dec_ok b a r h := by
      simp only [failAfter, bind_eq_ok] at h
      obtain ⟨_, _, h⟩ := h
      simp at h }

theorem constC_lawful {c : Codec Nat} (hc : Lawful c) (k : Nat) (e : String) :
    Lawful (constC c k e) := LawfulOn.lawful
  { dec_enc a r _ h := by
      simp only [constC, hc.dec_enc k r h, bind_ok, if_true]
    size_eq a h := hc.size_eq k h
    dec_ok b a r h := by
      simp only [constC, bind_eq_ok] at h
      obtain ⟨⟨n, r1⟩, hd, h⟩ := h
      split at h
      · rename_i hk
        have hk : n = k := hk
        simp only [Outcome.ok.injEq, Prod.mk.injEq] at h
        obtain ⟨_, rfl⟩ := h
        subst hk
        exact ⟨hc.dec_wf _ _ _ hd, hc.dec_suffix _ _ _ hd⟩
      · simp at h }

theorem optionC_wf {α} {present : Bool} {c : Codec α} {d : α} {o : Option α}
    (h : (optionC present c d).wf o) : present = o.isSome := by
  cases present with
  | true =>
    obtain ⟨a, e, _⟩ := optWf_some (p := c.wf) (o := o) h
    rw [e]
    rfl
  | false =>
    have e : o = none := h
    rw [e]
    rfl

theorem optionC_lawful {α} {c : Codec α} (hc : Lawful c) (present : Bool) (d : α) :
    Lawful (optionC present c d) := by
  unfold optionC
  cases present with
  | true =>
    simp only [if_true]
    exact inj_lawful hc (fun b a h => by simpa using h.symm) (fun a _ => rfl)
  | false =>
    simp only [Bool.false_eq_true, if_false]
    exact LawfulOn.lawful
      { dec_enc a r _ h := by
          cases h
          rfl
        size_eq a _ := rfl
        dec_ok b a r h := by
          simp only [Outcome.ok.injEq, Prod.mk.injEq] at h
          obtain ⟨rfl, rfl⟩ := h
          exact ⟨rfl, [], rfl⟩ }

theorem decN_enc {α} {c : Codec α} (hc : Lawful c) (l : List α) (hw : ∀ a ∈ l, c.wf a) (r : Bytes) :
    decN c l.length ((l.map c.enc).flatten ++ r) = .ok (l, r) := by
  induction l with
  | nil => simp [decN]
  | cons a as ih =>
    simp only [List.map_cons, List.flatten_cons, List.append_assoc, List.length_cons, decN,
      hc.dec_enc a _ (hw a (by simp)), ih (fun x hx => hw x (by simp [hx]))]

theorem decN_ok {α} {c : Codec α} (hc : Lawful c) :
    ∀ (n : Nat) (b : Bytes) (l : List α) (r : Bytes), decN c n b = .ok (l, r) →
      l.length = n ∧ (∀ a ∈ l, c.wf a) ∧ ∃ p, b = p ++ r := by
  intro n
  induction n with
  | zero =>
    intro b l r h
    simp only [decN] at h
    injection h with h; injection h with h1 h2
    subst h1 h2
    exact ⟨rfl, by simp, [], rfl⟩
  | succ n ih =>
    intro b l r h
    simp only [decN] at h
    split at h
    · rename_i a r1 h1
      split at h
      · rename_i as r2 h2
        injection h with h; injection h with e1 e2
        subst e1 e2
        obtain ⟨hl, hw, s2⟩ := ih _ _ _ h2
        refine ⟨by simp [hl], ?_, suffix_trans (hc.dec_suffix _ _ _ h1) s2⟩
        intro x hx
        rcases List.mem_cons.mp hx with rfl | hx
        · exact hc.dec_wf _ _ _ h1
        · exact hw x hx
      · simp at h
      · simp at h
    · simp at h
    · simp at h

theorem length_flatten_map {α} (f : α → Bytes) (g : α → Nat) (l : List α)
    (h : ∀ a ∈ l, (f a).length = g a) : ((l.map f).flatten).length = (l.map g).sum := by
  rw [List.length_flatten, List.map_map]
  exact congrArg List.sum (List.map_congr_left h)

theorem repeatN_lawful {α} {c : Codec α} (hc : Lawful c) (n : Nat) : Lawful (repeatN c n) :=
  LawfulOn.lawful
  { dec_enc l r _ h := by
      obtain ⟨hl, hw⟩ := h
      subst hl
      exact decN_enc hc l hw r
    size_eq l h := length_flatten_map _ _ l (fun a ha => hc.size_eq a (h.2 a ha))
    dec_ok b l r h := by
      obtain ⟨hl, hw, hp⟩ := decN_ok hc n b l r h
      exact ⟨⟨hl, hw⟩, hp⟩ }

theorem lenPrefixed_lawful {β} {cl : Codec Nat} {body : Nat → Codec β} {len : β → Nat} {d : β}
    (hl : Lawful cl) (hb : ∀ n, Lawful (body n)) (hlen : ∀ n b, (body n).wf b → len b = n) :
    Lawful (lenPrefixed cl body len d) :=
  inj_lawful (dpair_lawful hl hb)
    (fun b a h => by
      injection h with h
      subst h
      rfl)
    (fun a h => by
      obtain ⟨n, b⟩ := a
      have : len b = n := hlen n b h.2
      simp [this])

theorem varBytes_lawful : Lawful varBytes :=
  lenPrefixed_lawful varint_lawful vecBytes_lawful (fun _ _ h => h)

theorem u8Bytes_lawful : Lawful u8Bytes :=
  lenPrefixed_lawful u8_lawful vecBytes_lawful (fun _ _ h => h)

theorem listPush_lawful {α} {c : Codec α} (hc : Lawful c) : Lawful (listPush c) :=
  lenPrefixed_lawful varint_lawful (repeatN_lawful hc) (fun _ _ h => h.1)

theorem listCap_lawful {α} {c : Codec α} (hc : Lawful c) : Lawful (listCap c) := listPush_lawful hc

theorem listMax_lawful {α} {c : Codec α} (hc : Lawful c) (max : Nat) : Lawful (listMax max c) :=
  lenPrefixed_lawful (refine_lawful varint_lawful _ _) (repeatN_lawful hc) (fun _ _ h => h.1)

theorem varStr_lawful : Lawful varStr := refine_lawful varBytes_lawful _ _

theorem listTry_lawful {α} {c : Codec α} (hc : Lawful c) : Lawful (listTry c) := LawfulOn.lawful
  { dec_enc l r _ h := by
      simp only [listTry, List.append_assoc, varint_lawful.dec_enc l.length _ h.1]
      exact decN_enc hc l h.2 r
    size_eq l h := by
      simp only [listTry, List.length_append, varint_lawful.size_eq l.length h.1,
        length_flatten_map _ _ l (fun a ha => hc.size_eq a (h.2 a ha))]
    dec_ok b l r h := by
      simp only [listTry] at h
      split at h
      · rename_i n r1 h1
        obtain ⟨hl, hw, s2⟩ := decN_ok hc n r1 l r h
        have hn : n < 2 ^ 64 := varint_lawful.dec_wf _ _ _ h1
        exact ⟨⟨hl ▸ hn, hw⟩, suffix_trans (varint_lawful.dec_suffix _ _ _ h1) s2⟩
      · simp only [Outcome.ok.injEq, Prod.mk.injEq] at h
        obtain ⟨rfl, rfl⟩ := h
        exact ⟨⟨Nat.two_pow_pos 64, nofun⟩, b, (List.append_nil b).symm⟩ }

theorem assocDec_ok {b a r} (h : assocDec b = .ok (a, r)) : a.length < 256 ∧ ∃ p, b = p ++ r := by
  simp only [assocDec] at h
  split at h
  · rename_i n r1 h1
    have hn : n < 256 ^ 1 := u8_lawful.dec_wf _ _ _ h1
    have s1 := u8_lawful.dec_suffix _ _ _ h1
    split at h
    · have hl : a.length = n := (vecBytes_lawful n).dec_wf _ _ _ h
      exact ⟨by omega, suffix_trans s1 ((vecBytes_lawful n).dec_suffix _ _ _ h)⟩
    · simp only [Outcome.ok.injEq, Prod.mk.injEq] at h
      obtain ⟨rfl, rfl⟩ := h
      exact ⟨by decide, s1⟩
  · simp only [Outcome.ok.injEq, Prod.mk.injEq] at h
    obtain ⟨rfl, rfl⟩ := h
    exact ⟨by decide, b, (List.append_nil b).symm⟩

theorem assocDec_enc (a r : Bytes) (h : a.length < 256) :
    assocDec (natToLEn 1 a.length ++ a ++ r) = .ok (a, r) := by
  have e : u8.dec (natToLEn 1 a.length ++ (a ++ r)) = .ok (a.length, a ++ r) :=
    u8_lawful.dec_enc a.length (a ++ r) (show a.length < 256 ^ 1 by omega)
  simp only [assocDec, List.append_assoc, e]
  split
  · exact (vecBytes_lawful a.length).dec_enc a r rfl
  · rename_i h0
    have : a = [] := List.eq_nil_of_length_eq_zero (by omega)
    subst this
    rfl

theorem assocAlways_lawful : Lawful assocAlways := LawfulOn.lawful
  { dec_enc a r _ h := by
      show assocDec (natToLEn 1 a.length ++ a ++ r) = _
      exact assocDec_enc a r h
    size_eq a _ := by
      simp only [assocAlways, List.length_append, natToLEn_length]
    dec_ok b a r h := assocDec_ok h }

theorem assocOpt_lawfulEnd : LawfulEnd assocOpt where
  dec_enc a h := by
    cases a with
    | nil => rfl
    | cons x xs =>
      have e := assocDec_enc (x :: xs) [] h
      rw [List.append_nil] at e
      exact e
  size_eq a _ := by
    cases a with
    | nil => rfl
    | cons x xs =>
      simp only [assocOpt, List.isEmpty_cons, Bool.false_eq_true, if_false, List.length_append,
        natToLEn_length, Nat.add_comm]
  dec_wf b a r h := (assocDec_ok h).1
  dec_suffix b a r h := (assocDec_ok h).2

theorem policyOpt_lawfulEnd : LawfulEnd policyOpt := LawfulOn.toEnd
  { dec_enc a r hr h := by
      subst hr
      cases a with
      | nil => rfl
      | cons x xs =>
        have e := varint_lawful.dec_enc (x :: xs).length (x :: xs) h.1
        have e2 : (vecBytes (x :: xs).length).dec (x :: xs) = .ok (x :: xs, []) :=
          (vecBytes_lawful _).toEnd.dec_enc (x :: xs) rfl
        simp only [policyOpt, List.isEmpty_cons, Bool.false_eq_true, if_false, List.append_nil, e, e2,
          bind_ok, h.2, if_true]
    size_eq a h := by
      cases a with
      | nil => rfl
      | cons x xs =>
        simp only [policyOpt, List.isEmpty_cons, Bool.false_eq_true, if_false, List.length_append,
          varint_lawful.size_eq _ h.1]
    dec_ok b a r h := by
      simp only [policyOpt] at h
      split at h
      · rename_i n r1 h1
        simp only [bind_eq_ok] at h
        obtain ⟨⟨x, r2⟩, h2, h⟩ := h
        split at h
        · rename_i hu
          simp only [Outcome.ok.injEq, Prod.mk.injEq] at h
          obtain ⟨rfl, rfl⟩ := h
          have hl : x.length = n := (vecBytes_lawful n).dec_wf _ _ _ h2
          have hn : n < 2 ^ 64 := varint_lawful.dec_wf _ _ _ h1
          exact ⟨⟨hl ▸ hn, hu⟩,
            suffix_trans (varint_lawful.dec_suffix _ _ _ h1) ((vecBytes_lawful n).dec_suffix _ _ _ h2)⟩
        · simp at h
      · simp only [Outcome.ok.injEq, Prod.mk.injEq] at h
        obtain ⟨rfl, rfl⟩ := h
        exact ⟨by decide, b, (List.append_nil b).symm⟩ }

@[simp] theorem enc_iso {α β} (c : Codec α) (f : α → β) (g : β → α) (b : β) :
    (iso c f g).enc b = c.enc (g b) := rfl
@[simp] theorem enc_dpair {α β} (ca : Codec α) (cb : α → Codec β) (p : α × β) :
    (dpair ca cb).enc p = ca.enc p.1 ++ (cb p.1).enc p.2 := rfl
@[simp] theorem enc_pair {α β} (ca : Codec α) (cb : Codec β) (p : α × β) :
    (ca ⊗ cb).enc p = ca.enc p.1 ++ cb.enc p.2 := rfl
@[simp] theorem enc_bytesN (n : Nat) (a : Bytes) : (bytesN n).enc a = a := rfl
@[simp] theorem enc_vecBytes (n : Nat) (a : Bytes) : (vecBytes n).enc a = a := rfl
@[simp] theorem enc_refine {α} (c : Codec α) (p : α → Bool) (e : String) (a : α) :
    (refine c p e).enc a = c.enc a := rfl
@[simp] theorem enc_validated {α} (c : Codec α) (v : α → Outcome Unit) (a : α) :
    (validated c v).enc a = c.enc a := rfl
@[simp] theorem enc_lenPrefixed {β} (cl : Codec Nat) (body : Nat → Codec β) (len : β → Nat) (d : β) (b : β) :
    (lenPrefixed cl body len d).enc b = cl.enc (len b) ++ (body (len b)).enc b := rfl
@[simp] theorem enc_repeatN {α} (c : Codec α) (n : Nat) (l : List α) :
    (repeatN c n).enc l = (l.map c.enc).flatten := rfl

end CG.Model.Wire
