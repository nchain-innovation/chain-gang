import CG.Model.Shift
import CG.Spec.ScriptSem
import CG.Proofs.ScriptNum
/-! Lemmas about `lshift` / `rshift` (`src/util/bits.rs`): the mask-and-carry formulation equals the
    shift of the big-endian number. -/
namespace CG.Proofs.Shift
open CG CG.Model.Shift CG.Spec.ScriptSem

/-! What one byte `x` contributes under a shift by `s < 8` bits: the masked part shifted within the byte
    (`lval`, `rval`) and the part carried into the neighbouring byte (`lcarry`, `rcarry`), as arithmetic on
    `x.toNat`.  The only place where the mask tables are looked at; checked on all 8 × 256 pairs `(s, x)`. -/

theorem lval (s : Fin 8) : ∀ x : UInt8,
    ((x &&& LSHIFT_MASK.getD s.val 0) <<< UInt8.ofNat s.val).toNat = (x.toNat * 2 ^ s.val) % 256 :=
  UInt8.forall_of_fin (by revert s; decide +kernel)

theorem lcarry (s : Fin 8) : ∀ x : UInt8,
    ((x &&& ~~~ (LSHIFT_MASK.getD s.val 0)) >>> UInt8.ofNat ((8 - s.val) % 8)).toNat
      = x.toNat * 2 ^ s.val / 256 :=
  UInt8.forall_of_fin (by revert s; decide +kernel)

theorem rval (s : Fin 8) : ∀ x : UInt8,
    ((x &&& RSHIFT_MASK.getD s.val 0) >>> UInt8.ofNat s.val).toNat = x.toNat / 2 ^ s.val :=
  UInt8.forall_of_fin (by revert s; decide +kernel)

theorem rcarry (s : Fin 8) : ∀ x : UInt8,
    ((x &&& ~~~ (RSHIFT_MASK.getD s.val 0)) <<< UInt8.ofNat ((8 - s.val) % 8)).toNat
      = (x.toNat * 256 / 2 ^ s.val) % 256 :=
  UInt8.forall_of_fin (by revert s; decide +kernel)

/-- OR of two bytes occupying disjoint bit ranges is their sum -/
theorem or_toNat_add (a b : UInt8) (e : Nat) (ha : a.toNat % 2 ^ e = 0) (hb : b.toNat < 2 ^ e) :
    (a ||| b).toNat = a.toNat + b.toNat := by
  rw [UInt8.toNat_or]
  have h : a.toNat = (a.toNat / 2 ^ e) <<< e := by
    rw [Nat.shiftLeft_eq, Nat.div_mul_cancel (Nat.dvd_of_mod_eq_zero ha)]
  rw [h, ← Nat.shiftLeft_add_eq_or_of_lt hb]

theorem two_pow_mul {s : Nat} (hs : s < 8) : 2 ^ s * 2 ^ (8 - s) = 256 := by
  rw [← Nat.pow_add, show s + (8 - s) = 8 by omega]

theorem lbyte (s : Fin 8) (x y : UInt8) :
    (((x &&& LSHIFT_MASK.getD s.val 0) <<< UInt8.ofNat s.val) |||
      ((y &&& ~~~ (LSHIFT_MASK.getD s.val 0)) >>> UInt8.ofNat ((8 - s.val) % 8))).toNat
      = (x.toNat * 2 ^ s.val) % 256 + y.toNat * 2 ^ s.val / 256 := by
  rw [or_toNat_add _ _ s.val, lval, lcarry]
  · -- the value part is a multiple of `2^s`
    rw [lval, Nat.mod_mod_of_dvd _ ⟨_, (two_pow_mul s.isLt).symm⟩, Nat.mul_mod_left]
  · -- the carry part is below `2^s`
    rw [lcarry]
    exact Nat.div_lt_of_lt_mul (Nat.mul_lt_mul_of_pos_right y.toNat_lt (Nat.two_pow_pos _))

theorem rbyte (s : Fin 8) (x y : UInt8) :
    (((x &&& RSHIFT_MASK.getD s.val 0) >>> UInt8.ofNat s.val) |||
      ((y &&& ~~~ (RSHIFT_MASK.getD s.val 0)) <<< UInt8.ofNat ((8 - s.val) % 8))).toNat
      = x.toNat / 2 ^ s.val + (y.toNat * 256 / 2 ^ s.val) % 256 := by
  have hqp : 2 ^ (8 - s.val) * 2 ^ s.val = 256 := by rw [Nat.mul_comm]; exact two_pow_mul s.isLt
  rw [UInt8.or_comm, or_toNat_add _ _ (8 - s.val), rval, rcarry, Nat.add_comm]
  · -- the carry part is a multiple of `2^(8-s)`
    rw [rcarry, ← hqp, ← Nat.mul_assoc, Nat.mul_div_cancel _ (Nat.two_pow_pos _), hqp,
      Nat.mod_mod_of_dvd _ ⟨_, hqp.symm⟩, Nat.mul_mod_left]
  · -- the value part is below `2^(8-s)`
    rw [rval]
    exact Nat.div_lt_of_lt_mul (by rw [two_pow_mul s.isLt]; exact x.toNat_lt)

theorem natToLEn_getElem : ∀ (n x k : Nat) (h : k < (natToLEn n x).length),
    (natToLEn n x)[k] = UInt8.ofNat (x / 256 ^ k % 256) := by
  intro n
  induction n with
  | zero => intro x k h; simp [natToLEn] at h
  | succ n ih =>
    intro x k h
    cases k with
    | zero => simp [natToLEn]
    | succ k =>
      simp only [natToLEn, List.getElem_cons_succ]
      rw [ih, Nat.div_div_eq_div_mul, Nat.pow_succ, Nat.mul_comm]

theorem leToNat_digit : ∀ (w : Bytes) (k : Nat), leToNat w / 256 ^ k % 256 = (w.getD k 0).toNat := by
  intro w
  induction w with
  | nil => intro k; simp [leToNat]
  | cons x xs ih =>
    intro k
    have hx := x.toNat_lt
    cases k with
    | zero => simp [leToNat]
    | succ k =>
      simp only [leToNat, List.getD_cons_succ]
      have e : (x.toNat + 256 * leToNat xs) / 256 = leToNat xs := by omega
      rw [← ih k, show (256 : Nat) ^ (k + 1) = 256 * 256 ^ k by rw [Nat.pow_succ, Nat.mul_comm],
        ← Nat.div_div_eq_div_mul, e]

theorem foldl_be (v : Bytes) : ∀ acc : Nat,
    v.foldl (fun acc b => acc * 256 + b.toNat) acc = acc * 256 ^ v.length + leToNat v.reverse := by
  induction v with
  | nil => intro acc; simp [leToNat]
  | cons x xs ih =>
    intro acc
    simp only [List.foldl_cons, ih, List.reverse_cons, leToNat_append, List.length_reverse,
      List.length_cons, leToNat, Nat.pow_succ, Nat.add_mul, Nat.mul_zero, Nat.add_zero]
    rw [Nat.mul_assoc, Nat.mul_comm 256, Nat.mul_comm x.toNat]; omega

theorem beToNat_eq (v : Bytes) : beToNat v = leToNat v.reverse := by
  simp [beToNat, foldl_be]

theorem beToNat_lt (v : Bytes) : beToNat v < 256 ^ v.length := by
  rw [beToNat_eq]; simpa using leToNat_lt v.reverse

theorem be_digit (v : Bytes) (i : Nat) (hi : i < v.length) :
    beToNat v / 256 ^ (v.length - 1 - i) % 256 = (byteAt v i).toNat := by
  rw [beToNat_eq, leToNat_digit, byteAt]
  congr 1
  simp only [List.getD_eq_getElem?_getD]
  rw [List.getElem?_reverse (by omega)]
  congr 2; omega

theorem be_digit_high (v : Bytes) (m : Nat) (hm : v.length ≤ m) : beToNat v / 256 ^ m % 256 = 0 := by
  have h1 := beToNat_lt v
  have h2 : 256 ^ v.length ≤ 256 ^ m := Nat.pow_le_pow_right (by decide) hm
  rw [Nat.div_eq_of_lt (by omega)]

theorem byteAt_high (v : Bytes) (i : Nat) (hi : v.length ≤ i) : byteAt v i = 0 := by
  simp [byteAt, List.getD_eq_getElem?_getD, List.getElem?_eq_none hi]

theorem eq_natToBEn (x : Bytes) (X : Nat)
    (h : ∀ j (hj : j < x.length), x[j].toNat = X / 256 ^ (x.length - 1 - j) % 256) :
    x = natToBEn x.length X := by
  apply List.ext_getElem
  · simp [natToBEn]
  · intro j h1 h2
    simp only [natToBEn, List.getElem_reverse, natToLEn_getElem, natToLEn_length]
    rw [← h j h1]; simp

theorem beToNat_natToBEn (L X : Nat) : beToNat (natToBEn L X) = X % 256 ^ L := by
  rw [natToBEn, beToNat_eq, List.reverse_reverse, leToNat_natToLEn]

theorem natToBEn_zero (L : Nat) : natToBEn L 0 = List.replicate L 0 := by
  rw [natToBEn, ← List.reverse_replicate]
  congr 1
  induction L with
  | zero => rfl
  | succ L ih => rw [natToLEn, List.replicate_succ, ← ih]; rfl

theorem digit_mod (a L k : Nat) (h : k < L) : (a % 256 ^ L) / 256 ^ k % 256 = a / 256 ^ k % 256 := by
  have e : 256 ^ L = 256 ^ k * (256 * 256 ^ (L - k - 1)) := by
    rw [← Nat.pow_succ', ← Nat.pow_add]; congr 1; omega
  rw [e, Nat.mod_mul_right_div_self, Nat.mod_mul_right_mod]

theorem digit_mul_low (W b k : Nat) (h : k < b) : (W * 256 ^ b) / 256 ^ k % 256 = 0 := by
  have e : 256 ^ b = 256 ^ k * (256 ^ (b - k - 1) * 256) := by
    rw [← Nat.pow_succ, ← Nat.pow_add]; congr 1; omega
  rw [e, Nat.mul_comm W, Nat.mul_assoc, Nat.mul_div_cancel_left _ (Nat.pow_pos (by decide)), Nat.mul_right_comm,
    Nat.mul_mod_left]

theorem digit_mul_high (W b k : Nat) (h : b ≤ k) : (W * 256 ^ b) / 256 ^ k = W / 256 ^ (k - b) := by
  have e : 256 ^ k = 256 ^ (k - b) * 256 ^ b := by rw [← Nat.pow_add]; congr 1; omega
  rw [e, Nat.mul_div_mul_right _ _ (Nat.pow_pos (by decide))]

/-- dividing by `p`, where `p * q = 256`: the low byte of the quotient takes the top of byte 0 and the
    bottom of byte 1 -/
theorem shr_core (p q W : Nat) (hpq : p * q = 256) :
    (W / p) % 256 = (W % 256) / p + ((W / 256 % 256) * 256 / p) % 256 := by
  have hp : 0 < p := Nat.pos_of_ne_zero (by rintro rfl; simp at hpq)
  have hqp : q * p = 256 := by rw [Nat.mul_comm]; exact hpq
  have hpd : p ∣ 256 := ⟨q, hpq.symm⟩
  -- `W = 256 A + B`
  generalize hA : W / 256 = A
  generalize hB : W % 256 = B
  have hBlt : B < 256 := by rw [← hB]; exact Nat.mod_lt _ (by decide)
  have hW : W = p * (q * A) + B := by rw [← Nat.mul_assoc, hpq, ← hA, ← hB, Nat.div_add_mod]
  have h1 : W / p = q * A + B / p := by rw [hW, Nat.mul_add_div hp]
  have h2 : (A % 256) * 256 / p = (A % 256) * q := by
    rw [← hqp, ← Nat.mul_assoc, Nat.mul_div_cancel _ hp]
  have hBq : B / p < q := Nat.div_lt_of_lt_mul (by rw [hpq]; exact hBlt)
  have h3 : (A % 256) * q % 256 = q * (A % p) := by
    rw [Nat.mul_comm, ← hqp, Nat.mul_mod_mul_left, hqp, Nat.mod_mod_of_dvd _ hpd]
  have h4 : q * A % 256 = q * (A % p) := by rw [← hqp, Nat.mul_mod_mul_left]
  -- no carry out of the byte: `q (A % p) + B / p < q p`
  have hlt : q * (A % p) + B / p < 256 := by
    have : q * (A % p + 1) ≤ q * p := Nat.mul_le_mul_left _ (Nat.mod_lt _ hp)
    rw [Nat.mul_add, Nat.mul_one, hqp] at this
    omega
  rw [h1, h2, h3, Nat.add_mod, h4, Nat.mod_eq_of_lt (show B / p < 256 by omega), Nat.mod_eq_of_lt hlt,
    Nat.add_comm]

/-- multiplying by `p`, where `p * q = 256`, is dividing by `q` one byte up -/
theorem shl_core (p q Q t : Nat) (hpq : p * q = 256) (ht : t < p) :
    (Q * p + t) / 256 % 256 = ((Q / 256 % 256) * p) % 256 + (Q % 256) * p / 256 := by
  have hp : 0 < p := Nat.pos_of_ne_zero (by rintro rfl; simp at hpq)
  have hq : 0 < q := Nat.pos_of_ne_zero (by rintro rfl; simp at hpq)
  have hqp : q * p = 256 := by rw [Nat.mul_comm]; exact hpq
  have e1 : (Q * p + t) / 256 = Q / q := by
    rw [← hpq, ← Nat.div_div_eq_div_mul, Nat.mul_comm Q p, Nat.mul_add_div hp, Nat.div_eq_of_lt ht,
      Nat.add_zero]
  have e2 : (Q % 256) * p / 256 = Q % 256 / q := by rw [← hqp, Nat.mul_div_mul_right _ _ hp]
  have e3 : (Q / 256 % 256) * 256 / q = (Q / 256 % 256) * p := by
    rw [← hpq, ← Nat.mul_assoc, Nat.mul_div_cancel _ hq]
  rw [e1, e2, shr_core q p Q hqp, e3, Nat.add_comm]

theorem digit_shl (V s k : Nat) (hs : s < 8) (hk : 1 ≤ k) :
    (V * 2 ^ s) / 256 ^ k % 256 =
      ((V / 256 ^ k % 256) * 2 ^ s) % 256 + (V / 256 ^ (k - 1) % 256) * 2 ^ s / 256 := by
  obtain ⟨k, rfl⟩ : ∃ k', k = k' + 1 := ⟨k - 1, by omega⟩
  simp only [Nat.add_sub_cancel]
  have hP : 0 < 256 ^ k := Nat.pow_pos (by decide)
  generalize hPd : 256 ^ k = P at *
  have e1 : (256 : Nat) ^ (k + 1) = P * 256 := by rw [Nat.pow_succ, hPd]
  rw [e1, ← Nat.div_div_eq_div_mul, ← Nat.div_div_eq_div_mul]
  have hV : V * 2 ^ s = P * (V / P * 2 ^ s) + V % P * 2 ^ s := by
    rw [← Nat.mul_assoc, ← Nat.add_mul, Nat.div_add_mod]
  have ht : V % P * 2 ^ s / P < 2 ^ s :=
    Nat.div_lt_of_lt_mul (Nat.mul_lt_mul_of_pos_right (Nat.mod_lt _ hP) (Nat.two_pow_pos s))
  rw [hV, Nat.mul_add_div hP]
  exact shl_core _ _ (V / P) _ (two_pow_mul hs) ht

/-- `lshift` reads towards the end of `v`, where `byteAt` is 0 anyway: its bounds test can be dropped -/
theorem guard_drop (c : Prop) [Decidable c] (f : UInt8 → UInt8) (v : Bytes) (i : Nat)
    (hf : f 0 = 0) (hc : ¬ c → v.length ≤ i) :
    (if c then f (byteAt v i) else 0) = f (byteAt v i) := by
  by_cases h : c
  · rw [if_pos h]
  · rw [if_neg h, byteAt_high v i (hc h), hf]

theorem lshift_getElem_toNat (v : Bytes) (n j : Nat) (hj : j < (lshift v n).length) :
    ((lshift v n)[j]).toNat =
      ((byteAt v (j + n / 8)).toNat * 2 ^ (n % 8)) % 256
        + (byteAt v (j + n / 8 + 1)).toNat * 2 ^ (n % 8) / 256 := by
  have hs : n % 8 < 8 := Nat.mod_lt _ (by decide)
  simp only [lshift, List.getElem_map, List.getElem_range]
  rw [guard_drop (j + n / 8 < v.length)
        (fun x => (x &&& LSHIFT_MASK.getD (n % 8) 0) <<< UInt8.ofNat (n % 8)) v (j + n / 8)
        (by simp) (by omega),
      guard_drop (j + n / 8 + 1 < v.length)
        (fun x => (x &&& ~~~ (LSHIFT_MASK.getD (n % 8) 0)) >>> UInt8.ofNat ((8 - n % 8) % 8)) v
        (j + n / 8 + 1) (by simp) (by omega)]
  exact lbyte ⟨n % 8, hs⟩ _ _

theorem two_pow_split (n : Nat) : 2 ^ n = 2 ^ (n % 8) * 256 ^ (n / 8) := by
  rw [pow256, ← Nat.pow_add]
  congr 1; omega

theorem lshift_eq_natToBEn (v : Bytes) (n : Nat) :
    lshift v n = natToBEn v.length ((beToNat v * 2 ^ n) % 2 ^ (8 * v.length)) := by
  have hlen := lshift_length v n
  have hs : n % 8 < 8 := Nat.mod_lt _ (by decide)
  have key := eq_natToBEn (lshift v n) ((beToNat v * 2 ^ n) % 2 ^ (8 * v.length)) ?_
  · rw [hlen] at key; exact key
  intro j hj
  rw [lshift_getElem_toNat v n j hj, hlen]
  rw [hlen] at hj
  rw [← pow256, digit_mod _ _ _ (by omega), two_pow_split n, ← Nat.mul_assoc]
  generalize hb : n / 8 = b
  generalize hsd : n % 8 = s at *
  by_cases hlow : v.length - 1 - j < b
  · rw [digit_mul_low _ _ _ hlow, byteAt_high v (j + b) (by omega),
      byteAt_high v (j + b + 1) (by omega)]
    simp
  · rw [digit_mul_high _ _ _ (by omega)]
    by_cases heq : v.length - 1 - j - b = 0
    · rw [heq, byteAt_high v (j + b + 1) (by omega), ← be_digit v (j + b) (by omega),
        show v.length - 1 - (j + b) = 0 by omega]
      simp only [Nat.pow_zero, Nat.div_one, UInt8.toNat_zero, Nat.zero_mul, Nat.zero_div,
        Nat.add_zero]
      conv => rhs; rw [Nat.mul_mod]
      conv => lhs; rw [Nat.mul_mod, Nat.mod_mod]
    · rw [digit_shl _ _ _ hs (by omega), ← be_digit v (j + b) (by omega),
        ← be_digit v (j + b + 1) (by omega),
        show v.length - 1 - (j + b) = v.length - 1 - j - b by omega,
        show v.length - 1 - (j + b + 1) = v.length - 1 - j - b - 1 by omega]

theorem lshift_eq_shl (v : Bytes) (n : Nat) : lshift v n = shl v n := by
  unfold shl
  split
  · next h =>
    -- `2^n` is a multiple of `256^L`
    obtain ⟨k, rfl⟩ := Nat.exists_eq_add_of_le h
    rw [lshift_eq_natToBEn, Nat.pow_add, ← Nat.mul_assoc, Nat.mul_right_comm, Nat.mul_mod_left,
      natToBEn_zero]
  · exact lshift_eq_natToBEn v n

theorem beToNat_lshift (v : Bytes) (n : Nat) :
    beToNat (lshift v n) = (beToNat v * 2 ^ n) % 2 ^ (8 * v.length) := by
  rw [lshift_eq_natToBEn, beToNat_natToBEn, ← pow256, Nat.mod_mod]

/-- `rshift` reads towards the front, at `j - n / 8` with truncated subtraction: its bounds test cannot be
    dropped and is moved inside `f` instead -/
theorem guard_in (c : Prop) [Decidable c] (f : UInt8 → UInt8) (x : UInt8) (hf : f 0 = 0) :
    (if c then f x else 0) = f (if c then x else 0) := by
  by_cases h : c
  · rw [if_pos h, if_pos h]
  · rw [if_neg h, if_neg h, hf]

theorem rshift_getElem_toNat (v : Bytes) (n j : Nat) (hj : j < (rshift v n).length) :
    ((rshift v n)[j]).toNat =
      (if n / 8 ≤ j then byteAt v (j - n / 8) else 0).toNat / 2 ^ (n % 8)
        + ((if n / 8 + 1 ≤ j then byteAt v (j - n / 8 - 1) else 0).toNat * 256 / 2 ^ (n % 8)) % 256 := by
  have hs : n % 8 < 8 := Nat.mod_lt _ (by decide)
  simp only [rshift, List.getElem_map, List.getElem_range]
  rw [guard_in (n / 8 ≤ j)
        (fun x => (x &&& RSHIFT_MASK.getD (n % 8) 0) >>> UInt8.ofNat (n % 8)) _
        (by simp),
      guard_in (n / 8 + 1 ≤ j)
        (fun x => (x &&& ~~~ (RSHIFT_MASK.getD (n % 8) 0)) <<< UInt8.ofNat ((8 - n % 8) % 8)) _
        (by simp)]
  exact rbyte ⟨n % 8, hs⟩ _ _

theorem rshift_eq_natToBEn (v : Bytes) (n : Nat) :
    rshift v n = natToBEn v.length (beToNat v / 2 ^ n) := by
  have hlen := rshift_length v n
  have hs : n % 8 < 8 := Nat.mod_lt _ (by decide)
  have key := eq_natToBEn (rshift v n) (beToNat v / 2 ^ n) ?_
  · rw [hlen] at key; exact key
  intro j hj
  rw [rshift_getElem_toNat v n j hj, hlen]
  rw [hlen] at hj
  generalize hb : n / 8 = b
  have hX : (if b ≤ j then byteAt v (j - b) else 0).toNat
      = beToNat v / 256 ^ (v.length - 1 - j + b) % 256 := by
    by_cases h : b ≤ j
    · rw [if_pos h, ← be_digit v (j - b) (by omega)]; congr 3; omega
    · rw [if_neg h, be_digit_high v _ (by omega)]; rfl
  have hY : (if b + 1 ≤ j then byteAt v (j - b - 1) else 0).toNat
      = beToNat v / 256 ^ (v.length - 1 - j + b + 1) % 256 := by
    by_cases h : b + 1 ≤ j
    · rw [if_pos h, ← be_digit v (j - b - 1) (by omega)]; congr 3; omega
    · rw [if_neg h, be_digit_high v _ (by omega)]; rfl
  rw [hX, hY]
  have e : beToNat v / 2 ^ n / 256 ^ (v.length - 1 - j)
      = beToNat v / 256 ^ (v.length - 1 - j + b) / 2 ^ (n % 8) := by
    rw [two_pow_split n, hb, Nat.div_div_eq_div_mul, Nat.div_div_eq_div_mul, Nat.pow_add]
    congr 1
    rw [Nat.mul_comm (2 ^ (n % 8)), Nat.mul_comm (256 ^ (v.length - 1 - j)), Nat.mul_right_comm]
  rw [e, Nat.pow_succ, ← Nat.div_div_eq_div_mul]
  exact (shr_core _ _ _ (two_pow_mul hs)).symm

theorem rshift_eq_shr (v : Bytes) (n : Nat) : rshift v n = shr v n := by
  unfold shr
  split
  · next h =>
    rw [rshift_eq_natToBEn]
    have h1 := beToNat_lt v
    have h2 : 256 ^ v.length ≤ 2 ^ n := by
      rw [pow256]
      exact Nat.pow_le_pow_right (by decide) h
    rw [Nat.div_eq_of_lt (by omega)]
    exact natToBEn_zero _
  · exact rshift_eq_natToBEn v n

theorem beToNat_rshift (v : Bytes) (n : Nat) : beToNat (rshift v n) = beToNat v / 2 ^ n := by
  rw [rshift_eq_natToBEn, beToNat_natToBEn]
  have h1 := beToNat_lt v
  have h2 : beToNat v / 2 ^ n ≤ beToNat v := Nat.div_le_self _ _
  exact Nat.mod_eq_of_lt (by omega)

end CG.Proofs.Shift
