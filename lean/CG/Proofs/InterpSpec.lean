import CG.Proofs.ScriptNum
import CG.Proofs.Shift
import CG.Proofs.InterpTotal
/-! One model step (`Model.Interp.exec`) equals one reference step (`Spec.ScriptSem.exec`); what `post_exec`
    says of the model step holds of the reference step too (`post_specExec`). -/
namespace CG.Proofs.InterpSpec
open CG CG.Model.ScriptNum CG.Model.Interp CG.Proofs.ScriptNum

theorem tdiv_eq (a b : Int) : a.tdiv b = Spec.ScriptSem.tdiv a b := by
  rcases a with m | m <;> rcases b with n | n
  all_goals
    have h1 : ¬ ((m : Int) < 0) := by omega
    have h2 : ¬ ((n : Int) < 0) := by omega
    have h3 : Int.negSucc m < 0 := Int.negSucc_lt_zero m
    have h4 : Int.negSucc n < 0 := Int.negSucc_lt_zero n
    simp [Spec.ScriptSem.tdiv, Int.tdiv, h1, h2, h3, h4]

theorem tmod_eq (a b : Int) : a.tmod b = Spec.ScriptSem.tmod a b := by
  rcases a with m | m <;> rcases b with n | n
  all_goals
    have h1 : ¬ ((m : Int) < 0) := by omega
    have h3 : Int.negSucc m < 0 := Int.negSucc_lt_zero m
    simp [Spec.ScriptSem.tmod, Int.tmod, h1, h3]

open CG.Spec.ScriptSem in
theorem popBig_eq (s : Stack) : popBig s = popVal s := by
  cases s <;> simp [popBig, popVal, scriptErr, decodeBig_eq_value]

open CG.Spec.ScriptSem in
theorem unaryBig_eq {σ : Type} (st : St σ) (f : Int → Int) : unaryBig st f = un st f := by
  simp only [unaryBig, un, popBig_eq, encodeBig_eq_encodeMin]; rfl

open CG.Spec.ScriptSem in
theorem binaryBig_eq {σ : Type} (st : St σ) (f : Int → Int → Outcome Bytes) :
    binaryBig st f = bin st f := by
  simp only [binaryBig, bin, popBig_eq]; rfl

/-- a binary operation that cannot fail (the general lemma does not apply by unification to a
    literal `fun a b => .ok _`, whose `match` reduces) -/
theorem binaryBig_ok_eq {σ : Type} (st : St σ) (g : Int → Int → Bytes) :
    binaryBig st (fun a b => .ok (g a b)) = Spec.ScriptSem.bin st (fun a b => .ok (g a b)) :=
  binaryBig_eq st _

theorem boolItem_eq : boolItem = Spec.ScriptSem.item := rfl

theorem encodeNum_natCast (n : Nat) :
    encodeNum (n : Int) = if n > 2147483647 then .err "ScriptError" else .ok (Spec.ScriptSem.encodeMin n) := by
  by_cases h : n > 2147483647
  · rw [if_pos h]; unfold encodeNum; rw [if_pos (by omega)]
  · rw [if_neg h, encodeNum_eq _ (by omega), encodeBig_eq_encodeMin]

theorem popNum_eq (s : Stack) : popNum s = Spec.ScriptSem.popSmall s := by
  cases s with
  | nil => rfl
  | cons t r =>
    simp only [popNum, Spec.ScriptSem.popSmall, scriptErr]
    by_cases h : t.length > 4
    · simp [h]
    · simp [h, decodeNum_small t (by omega), decodeBig_eq_value]

/-- one step of the model equals one step of the reference semantics, for every operation except
    NUM2BIN (and `pushNum` restricted to the `i32` range `encode_num` accepts; the dispatch only
    produces `pushNum n` with `-1 ≤ n ≤ 16`).  The reference semantics has arms of its own for the
    constants, DEPTH, SIZE, BIN2NUM, the shifts and the arithmetic opcodes treated below; every other
    arm it takes over from the model (`| op => Model.Interp.exec …`), and there the two sides are the
    same term. -/
theorem exec_eq_spec {σ : Type} (H : Hashes) (C : Checker σ) (pre : Bool) (script : Bytes) (i : Nat)
    (op : Op) (st : St σ) (hop : op ≠ .num2bin)
    (hpn : ∀ n, op = .pushNum n → n.natAbs ≤ 2147483647) :
    Model.Interp.exec H C pre script i op st = Spec.ScriptSem.exec H C pre script i op st := by
  cases op
  case num2bin => exact absurd rfl hop
  case pushNum n =>
    simp only [Model.Interp.exec, Spec.ScriptSem.exec, encodeNum_eq n (hpn n rfl), encodeBig_eq_encodeMin]
  case depth =>
    simp only [Model.Interp.exec, Spec.ScriptSem.exec, encodeNum_natCast]
    by_cases h : st.stack.length > 2147483647
    · simp only [h, if_true]
    · simp only [h, if_false]
  case size =>
    simp only [Model.Interp.exec, Spec.ScriptSem.exec, checkSize, scriptErr]
    cases hs : st.stack with
    | nil => simp
    | cons t r =>
      simp only [List.length_cons, encodeNum_natCast]
      rw [if_neg (by omega)]
      by_cases h : t.length > 2147483647
      · simp only [h, if_true]
      · simp only [h, if_false]
  case lshift | rshift =>
    simp only [Model.Interp.exec, Spec.ScriptSem.exec, checkSize, scriptErr]
    rcases hs : st.stack with _ | ⟨nb, _ | ⟨v, r⟩⟩
    · simp
    · simp
    · simp only [List.length_cons]
      rw [if_neg (by omega)]
      simp only [popNum, scriptErr]
      by_cases h : nb.length > 4
      · simp [h]
      · simp only [h, if_false, decodeNum_small nb (by omega), decodeBig_eq_value, popU,
          CG.Proofs.Shift.lshift_eq_shl, CG.Proofs.Shift.rshift_eq_shr]
  case bin2num =>
    simp only [Model.Interp.exec, Spec.ScriptSem.exec, checkSize, scriptErr]
    cases hs : st.stack with
    | nil => simp
    | cons t r =>
      simp only [List.length_cons, popU, encodeBig_eq_encodeMin, decodeBig_eq_value]
      rw [if_neg (by omega)]
  case add1 | sub1 | negate | abs | not_ | notequal0 | mul2 => exact unaryBig_eq st _
  case div2 =>
    refine (unaryBig_eq st _).trans ?_
    simp only [tdiv_eq]
    rfl
  case add | sub | mul | min | max =>
    refine (binaryBig_ok_eq st _).trans ?_
    simp only [encodeBig_eq_encodeMin]
    rfl
  case booland | boolor | numequal | numnotequal | lt | gt | le | ge => exact binaryBig_ok_eq st _
  case div | mod_ =>
    refine (binaryBig_eq st _).trans ?_
    simp only [encodeBig_eq_encodeMin, tdiv_eq, tmod_eq]
    rfl
  all_goals rfl

open CG.Spec.ScriptSem in
theorem value_ne_zero_of_minimal (s : Bytes) (hs : s ≠ []) (h : Minimal s) : value s ≠ 0 := by
  intro hc
  have := encodeMin_value_of_minimal s h
  rw [hc] at this
  exact hs (this.symm.trans encodeMin_zero)

theorem natToLEn_pad (n : Bytes) (k : Nat) :
    natToLEn (n.length + k) (leToNat n) = n ++ List.replicate k 0 := by
  have := natToLEn_leToNat (n ++ List.replicate k 0)
  simpa [leToNat_append, leToNat_replicate_zero] using this

open CG.Spec.ScriptSem in
theorem encodeMin_value_length_le (n : Bytes) : (encodeMin (value n)).length ≤ n.length := by
  by_cases hn : n = []
  · subst hn; decide
  · obtain ⟨init, d, rfl⟩ := list_snoc_of_ne_nil n hn
    have hA := leToNat_lt init
    have hd := d.toNat_lt
    have hub : 256 ^ init.length * (d.toNat % 128) ≤ 256 ^ init.length * 127 :=
      Nat.mul_le_mul_left _ (by omega)
    have hlen : ∀ z : Int, z.natAbs = leToNat init + 256 ^ init.length * (d.toNat % 128) →
        (encodeMin z).length ≤ init.length + 1 := by
      intro z hz
      unfold encodeMin
      simp only []
      split
      · simp
      · next hk =>
        simp only [natToLEn_length]
        have hm : z.natAbs ≠ 0 := by
          intro h0; apply hk; simp [h0, minLen]
        obtain ⟨h1, h2, h3⟩ := minLen_spec z.natAbs hm
        by_cases hgt : init.length + 1 < minLen z.natAbs
        · have := h3 (init.length + 1) (by omega) hgt
          rw [top_eq] at this
          omega
        · omega
    rw [value_snoc]
    simp only [List.length_append, List.length_singleton]
    split
    · exact hlen _ (by rw [Int.natAbs_neg]; exact Int.natAbs_natCast _)
    · exact hlen _ (Int.natAbs_natCast _)

/-- the two masks of `num2bin` on a last byte whose sign bit is clear -/
theorem and128 (l : UInt8) (h : l.toNat < 128) : l &&& 128 = 0 := by
  have := signSet_iff l
  simp only [signSet, show ¬ 128 ≤ l.toNat by omega, decide_false, bne_eq_false_iff_eq] at this
  exact this

theorem and127 (l : UInt8) (h : l.toNat < 128) : l &&& 127 = l :=
  UInt8.toNat_inj.mp (by rw [← clearSign, clearSign_toNat]; omega)

open CG.Spec.ScriptSem in
/-- NUM2BIN as coded equals the reference on every operand whose sign bit is clear, provided the
    operand is minimal or at least fits the requested size; the size operand `m` is arbitrary -/
theorem num2bin_eq_of_sign_clear (m : Int) (n : Bytes)
    (hsign : ∀ l, n.getLast? = some l → l.toNat < 128)
    (hlen : Minimal n ∨ (n.length : Int) ≤ m) :
    Model.Interp.num2bin m n = Spec.ScriptSem.num2bin m n := by
  unfold Model.Interp.num2bin Spec.ScriptSem.num2bin
  simp only [scriptErr]
  by_cases h1 : m < 1
  · simp [h1]
  by_cases h3 : m > 2147483647
  · simp [h1, h3]
  rw [if_neg h1, if_neg h3, if_neg (show ¬ (m < 1 ∨ m > 2147483647) by omega)]
  have hle := encodeMin_value_length_le n
  by_cases h2 : m < (n.length : Int)
  · have hmin : Minimal n := by
      rcases hlen with h | h
      · exact h
      · omega
    rw [if_pos h2, encodeMin_value_of_minimal n hmin, if_pos (by omega)]
  rw [if_neg h2, if_neg (by omega)]
  have hm : n.length + (m.toNat - n.length) = m.toNat := by omega
  by_cases hn : n = []
  · subst hn
    have := natToLEn_pad [] (m.toNat - 0)
    simp only [List.length_nil, Nat.zero_add, leToNat, List.nil_append] at this
    simp only [List.getLast?_nil, List.nil_append, List.length_nil]
    generalize hv : List.replicate (m.toNat - 0) (0 : UInt8) = v at *
    cases v with
    | nil => have := congrArg List.length hv; simp at this; omega
    | cons b rest => rw [Nat.sub_zero] at this; simp [value, this]
  · obtain ⟨init, d, rfl⟩ := list_snoc_of_ne_nil n hn
    have hd : d.toNat < 128 := hsign d (by simp)
    simp only [List.getLast?_append, List.getLast?_singleton, Option.some_or, List.dropLast_concat,
      and128 d hd, and127 d hd]
    rw [value_snoc, if_neg (by omega), if_neg (by omega)]
    simp only [Int.natAbs_natCast, Nat.add_zero]
    rw [show d.toNat % 128 = d.toNat by omega, ← leToNat_snoc, ← hm, natToLEn_pad, hm]
    generalize hv : init ++ [d] ++ List.replicate (m.toNat - (init ++ [d]).length) (0 : UInt8) = v
    cases v with
    | nil => have := congrArg List.length hv; simp at this
    | cons b rest => simp

theorem exec_num2bin_eq {σ : Type} (H : Hashes) (C : Checker σ) (pre : Bool) (script : Bytes) (i : Nat)
    (st : St σ)
    (h : ∀ mb n r, st.stack = mb :: n :: r →
      Model.Interp.num2bin (decodeBig mb) n = Spec.ScriptSem.num2bin (decodeBig mb) n) :
    Model.Interp.exec H C pre script i .num2bin st = Spec.ScriptSem.exec H C pre script i .num2bin st := by
  simp only [Model.Interp.exec, Spec.ScriptSem.exec, checkSize, scriptErr]
  rcases hs : st.stack with _ | ⟨mb, _ | ⟨n, r⟩⟩
  · simp
  · simp
  · simp only [List.length_cons]
    rw [if_neg (by omega)]
    have hh := h mb n r hs
    rw [decodeBig_eq_value] at hh
    simp only [popBig, popU, decodeBig_eq_value, hh]
    rfl

/-- the reference per-opcode semantics with the NUM2BIN arm replaced by the library's -/
def specLib {σ : Type} (H : Hashes) (C : Checker σ) (pre : Bool) (script : Bytes) (i : Nat)
    (op : Op) (st : St σ) : Outcome (Bool × St σ) :=
  if op = .num2bin then Model.Interp.exec H C pre script i op st
  else Spec.ScriptSem.exec H C pre script i op st

theorem decodeOp_pushNum (b : UInt8) (n : Int) (h : decodeOp b = .pushNum n) : n.natAbs ≤ 16 := by
  obtain ⟨-, -, -, -, -, hrange⟩ := decodeOp_table b
  rwa [h, decide_eq_true_eq] at hrange

theorem decodeOp_num2bin (b : UInt8) (h : decodeOp b = .num2bin) : b = 128 :=
  have ⟨_, _, _, _, hnum2bin, _⟩ := decodeOp_table b
  UInt8.toNat_inj.mp (hnum2bin.mp h)

theorem exec_eq_specLib {σ : Type} (H : Hashes) (C : Checker σ) (pre : Bool) (script : Bytes)
    (i : Nat) (b : UInt8) (st : St σ) :
    Model.Interp.exec H C pre script i (decodeOp b) st = specLib H C pre script i (decodeOp b) st := by
  unfold specLib
  split
  · rfl
  · next h =>
    exact exec_eq_spec H C pre script i _ st h
      (fun n hn => Nat.le_trans (decodeOp_pushNum b n hn) (by decide))

/-! `Post` for the reference `exec`, from `post_exec` and the arms of its own -/

section post
open CG.Spec.ScriptSem
variable {σ : Type} {P : St σ → Prop} {Q : Prop}

theorem post_un (st : St σ) (f : Int → Int) (h : ∀ s, P { st with stack := s }) : Post P Q (un st f) :=
  unaryBig_eq st f ▸ post_unaryBig st f h

theorem post_bin (st : St σ) (f : Int → Int → Outcome Bytes) (h : ∀ s, P { st with stack := s })
    (hf : ∀ a b p, f a b ≠ .panic p) : Post P Q (bin st f) :=
  binaryBig_eq st f ▸ post_binaryBig st f h hf

theorem post_bin_ok (st : St σ) (g : Int → Int → Bytes) (h : ∀ s, P { st with stack := s }) :
    Post P Q (bin st fun a b => .ok (g a b)) :=
  post_bin st _ h fun _ _ _ => nofun

theorem specNum2bin_ne_panic (m : Int) (n : Bytes) (p : String) : Spec.ScriptSem.num2bin m n ≠ .panic p := by
  unfold Spec.ScriptSem.num2bin
  split
  · nofun
  · simp only []
    split <;> nofun

theorem post_specExec (H : Hashes) (C : Checker σ) (pre : Bool) (script : Bytes) (i : Nat) (op : Op)
    (st : St σ) (hq : Q ∨ (C.NeverPanics ∧ st.checkIndex ≤ script.length))
    (hP : ∀ s a c, P { st with stack := s, alt := a, chk := c })
    (hsep : op = .codesep → P { st with checkIndex := i + 1 })
    (hflow : op = .if_ ∨ op = .notif ∨ op = .else_ ∨ op = .endif → ∀ s b, P { st with stack := s, branch := b }) :
    Post P Q (Spec.ScriptSem.exec H C pre script i op st) := by
  have hS : ∀ s, P { st with stack := s } := fun s => hP s _ _
  -- the arms the reference semantics takes over from the model
  have hmodel : Spec.ScriptSem.exec H C pre script i op st = Model.Interp.exec H C pre script i op st →
      Post P Q (Spec.ScriptSem.exec H C pre script i op st) :=
    fun e => e ▸ post_exec H C pre script i op st hq hP hsep hflow
  cases op
  case pushNum => exact hS _
  case depth => exact post_unless fun _ => hS _
  case size =>
    show Post P Q (match st.stack with | [] => _ | _ :: _ => _)
    split
    · trivial
    · exact post_unless fun _ => hS _
  case bin2num =>
    show Post P Q (match st.stack with | _ :: _ => _ | [] => _)
    split
    · exact hS _
    · trivial
  case add1 | sub1 | negate | abs | not_ | notequal0 | mul2 | div2 => exact post_un _ _ hS
  case add | sub | mul | booland | boolor | numequal | numnotequal | lt | gt | le | ge | min | max =>
    exact post_bin_ok _ _ hS
  case div | mod_ =>
    refine post_bin st _ hS ?_
    intro a b p
    show (if b = 0 then _ else _) ≠ _
    split <;> nofun
  case lshift | rshift =>
    show Post P Q (match st.stack with | nb :: v :: r => _ | _ => _)
    split
    · exact post_unless fun _ => post_unless fun _ => hS _
    · trivial
  case num2bin =>
    show Post P Q (match st.stack with | mb :: n :: r => _ | _ => _)
    split
    · next mb n r _ =>
      cases h3 : Spec.ScriptSem.num2bin (value mb) n with
      | ok v => exact hS _
      | err e => trivial
      | panic p => exact absurd h3 (specNum2bin_ne_panic _ _ _)
    · trivial
  all_goals exact hmodel rfl

end post

end CG.Proofs.InterpSpec
