import CG.Model.PeerConc
/-!
Invariants of the interleaving model of the connected peer (`CG.Model.PeerConc`), preserved by
every step of every thread; property theorems are in `CG.Props.C12conc`.

`Step` lists what one step of one thread does, rule by rule; `Step.of_step` ties it to the model's
`step` once, and every invariant is proved against the rules.
-/
namespace CG.Proofs.PeerConc
open CG CG.Model.PeerConc
open CG.Model.Peer (Output Msg SendErr Wire delivered pongs pingNonce)

theorem delivered_append (a b : List Output) : delivered (a ++ b) = delivered a ++ delivered b :=
  List.filterMap_append

theorem countDisc_eq_count (os : List Output) : countDisc os = os.count .emitDisconnected := by
  simp [countDisc, List.count_eq_length_filter]

theorem countDisc_append_of_not_mem (os : List Output) {x : List Output} (hx : Output.emitDisconnected ∉ x) :
    countDisc (os ++ x) = countDisc os := by
  simp [countDisc_eq_count, List.count_append, List.count_eq_zero.mpr hx]

theorem afterDisc_append (os x : List Output) :
    afterDisc (os ++ x) = if Output.emitDisconnected ∈ os then afterDisc os ++ x else afterDisc x := by
  induction os with
  | nil => simp
  | cons o rest ih => cases o <;> simp [afterDisc, ih]

theorem afterDisc_sublist (os : List Output) : (afterDisc os).Sublist os := by
  induction os with
  | nil => exact .slnil
  | cons o rest ih =>
    cases o with
    | emitDisconnected => exact List.sublist_cons_self _ _
    | _ => exact ih.cons _

theorem late_of_not_mem {os : List Output} (h : Output.emitDisconnected ∉ os) : late os = 0 := by
  have e := afterDisc_append os []
  simp only [List.append_nil, h, if_false, afterDisc] at e
  simp [late, e, delivered]

theorem late_append_le (os x : List Output) : late (os ++ x) ≤ late os + (delivered x).length := by
  unfold late
  rw [afterDisc_append]
  split
  · simp [delivered_append]
  · exact Nat.le_trans ((afterDisc_sublist x).filterMap _).length_le (Nat.le_add_left _ _)

theorem late_append_zero {os y : List Output} (h0 : late os = 0) (hy : delivered y = []) :
    late (os ++ y) = 0 := by
  have := late_append_le os y
  rw [h0, hy] at this
  exact Nat.le_zero.mp this

/-- A step of the receive thread outside `disconnect()`: it moves on to `r'`, leaves `rem'` to be read
    and logs `x`.  The rules contain the model's steps (`Step.of_step`); of the guards they record those
    the invariants use. -/
inductive RStep (s : St) : RPc → List RemoteEv → List Output → Prop
  | read {ev rest} : s.r = .read → s.remote = ev :: rest → RStep s (.test ev) rest []
  | readShut : s.r = .read → s.remote = [] → s.shut = true → RStep s (.test .fail) s.remote []
  | testDead {ev} : s.r = .test ev → s.flag = false → RStep s .dead s.remote []
  | testFrame {m} : s.r = .test (.frame m) → s.flag = true → RStep s (.handle m) s.remote []
  | testFail : s.r = .test .fail → s.flag = true → RStep s (.disc 0) s.remote []
  | pong {m n} : s.r = .handle m → m.kind = .ping n → s.wlock = none →
      RStep s (.publish m) s.remote [.wrote (.pong n)]
  | pongFailed {m n} : s.r = .handle m → m.kind = .ping n → s.wlock = none → RStep s (.disc 0) s.remote []
  | handle {m} : s.r = .handle m → RStep s (.publish m) s.remote []
  | publish {m} : s.r = .publish m → RStep s .read s.remote [.deliver m]

/-- A step of a local thread outside `disconnect()`: the thread goes from `t` to `t'` and logs `x`. -/
inductive LStep (s : St) : LThread → LThread → List Output → Prop
  | call {rest} : LStep s ⟨.idle, .disconnect :: rest⟩ ⟨.disc 0 none, rest⟩ []
  | refused {m rest} : s.flag = false →
      LStep s ⟨.idle, .send m :: rest⟩ ⟨.idle, rest⟩ [.sendResult (some .illegalState)]
  | load {m rest} : s.flag = true → LStep s ⟨.idle, .send m :: rest⟩ ⟨.write m, rest⟩ []
  | written {m ops} : s.wlock = none → canWrite s m.writable = true →
      LStep s ⟨.write m, ops⟩ ⟨.idle, ops⟩ [.wrote (.msg m), .sendResult none]
  | writeFailed {m ops} : s.wlock = none → canWrite s m.writable = false →
      LStep s ⟨.write m, ops⟩ ⟨.disc 0 (some .io), ops⟩ []

/-- what a `send` whose write failed logs when its `disconnect()` has returned -/
def retOut : Option SendErr → List Output
  | some e => [.sendResult (some e)]
  | none => []

/-- One step of thread `tid`.  `rdisc` / `ldisc`: step `k` of a `disconnect()` in progress, with the
    effect `discEff` on the shared fields; steps `0` and `1` lead to the next one, the others return. -/
inductive Step (s : St) : Nat → St → Prop
  | recv {r' rem' x} : RStep s r' rem' x → Step s 0 { s with r := r', remote := rem', out := s.out ++ x }
  | loc {i t t' x} : s.locals[i]? = some t → LStep s t t' x →
      Step s (i + 1) { s with locals := s.locals.set i t', out := s.out ++ x }
  | rdisc {k} : s.r = .disc k → (k = 1 → s.wlock = none) →
      Step s 0 { (discEff s 0 k).1 with r := if k < 2 then .disc (k + 1) else .dead }
  | ldisc {i k ret ops} : s.locals[i]? = some ⟨.disc k ret, ops⟩ → (k = 1 → s.wlock = none) →
      Step s (i + 1) { (discEff s (i + 1) k).1 with
        locals := s.locals.set i ⟨if k < 2 then .disc (k + 1) ret else .idle, ops⟩,
        out := (discEff s (i + 1) k).1.out ++ if k < 2 then [] else retOut ret }

variable {s s' : St} {tid k : Nat} {r' : RPc} {rem' : List RemoteEv} {x : List Output} {t t' : LThread}

theorem discStep_eq_some {p : St × Bool} (h : discStep s tid k = some p) :
    p = discEff s tid k ∧ (k = 1 → s.wlock = none) := by
  unfold discStep at h
  split at h
  · cases h
  · rename_i hn
    cases h
    exact ⟨rfl, fun hk => by simpa [hk] using hn⟩

theorem Step.of_stepR (hs : stepR s = some s') : Step s 0 s' := by
  unfold stepR at hs
  split at hs
  · rename_i hr
    split at hs
    · rename_i hrem; cases hs; simpa using recv (.read hr hrem)
    · rename_i hrem
      split at hs
      · rename_i hsh; cases hs; simpa using recv (.readShut hr hrem hsh)
      · cases hs
  · rename_i ev hr
    split at hs
    · rename_i hf; cases hs; simpa using recv (.testDead hr (by simpa using hf))
    · rename_i hf
      split at hs <;> cases hs
      · simpa using recv (.testFrame hr (by simpa using hf))
      · simpa using recv (.testFail hr (by simpa using hf))
  · rename_i m hr
    split at hs
    · rename_i n hk
      split at hs
      · cases hs
      · rename_i hw
        split at hs <;> cases hs
        · simpa using recv (.pong hr hk (by simpa using hw))
        · simpa using recv (.pongFailed hr hk (by simpa using hw))
    · cases hs; simpa using recv (.handle hr)
  · rename_i m hr
    cases hs; exact recv (.publish hr)
  · rename_i k hr
    split at hs
    · cases hs
    · rename_i s1 fin hd
      obtain ⟨e, hw⟩ := discStep_eq_some hd
      cases hs
      match k with
      | 0 => cases e; exact rdisc hr hw
      | 1 => cases e; exact rdisc hr hw
      | k + 2 => cases e; exact rdisc hr hw
  · cases hs

theorem Step.of_stepL {s1 : St} {i : Nat} {t1 : LThread} (ht : s.locals[i]? = some t)
    (hs : stepL s (i + 1) t = some (s1, t1)) : Step s (i + 1) { s1 with locals := s1.locals.set i t1 } := by
  obtain ⟨pc, ops⟩ := t
  cases pc with
  | idle =>
    cases ops with
    | nil => cases hs
    | cons op rest =>
      cases op with
      | disconnect => cases hs; simpa using loc ht .call
      | send m =>
        simp only [stepL] at hs
        split at hs <;> cases hs
        · rename_i hf; simpa using loc ht (.refused (by simpa using hf))
        · rename_i hf; simpa using loc ht (.load (by simpa using hf))
  | write m =>
    simp only [stepL] at hs
    split at hs
    · cases hs
    · rename_i hw
      split at hs <;> cases hs
      · rename_i hc; simpa using loc ht (.written (by simpa using hw) hc)
      · rename_i hc; simpa using loc ht (.writeFailed (by simpa using hw) (by simpa using hc))
  | disc k ret =>
    simp only [stepL] at hs
    split at hs
    · cases hs
    · rename_i s2 fin hd
      obtain ⟨e, hw⟩ := discStep_eq_some hd
      match k with
      | 0 => cases e; cases hs; simpa [discEff] using ldisc ht hw
      | 1 => cases e; cases hs; simpa [discEff] using ldisc ht hw
      | k + 2 =>
        cases e
        cases ret <;> cases hs <;> simpa [discEff, retOut, Nat.not_lt.mpr (Nat.le_add_left 2 k)] using ldisc ht hw

theorem Step.of_step (hs : step s tid = some s') : Step s tid s' := by
  unfold step at hs
  split at hs
  · exact of_stepR hs
  · rename_i i
    split at hs
    · cases hs
    · rename_i t ht
      split at hs
      · cases hs
      · rename_i s1 t1 h1; cases hs; exact of_stepL ht h1

theorem run_induction {P : St → Prop} (hstep : ∀ s tid s', P s → Step s tid s' → P s') (s : St)
    (sched : List Nat) (h : P s) : P (run s sched) := by
  induction sched generalizing s with
  | nil => exact h
  | cons tid rest ih =>
    simp only [run]
    split
    · rename_i s' hs; exact ih s' (hstep s tid s' h (.of_step hs))
    · exact ih s h

theorem RStep.not_mem (h : RStep s r' rem' x) : Output.emitDisconnected ∉ x := by
  cases h <;> simp

theorem RStep.pc (h : RStep s r' rem' x) :
    s.r ≠ .dead ∧ (∀ k, s.r ≠ .disc k) ∧ ∀ k, r' = .disc k → k = 0 := by
  cases h <;> simp_all

theorem LStep.log (h : LStep s t t' x) : delivered x = [] ∧ Output.emitDisconnected ∉ x := by
  cases h <;> simp [delivered]

theorem LStep.pc (h : LStep s t t' x) :
    (∀ k ret, t.pc ≠ .disc k ret) ∧ ∀ k ret, t'.pc = .disc k ret → k = 0 := by
  cases h <;> simp

theorem retOut_log (ret : Option SendErr) :
    delivered (retOut ret) = [] ∧ Output.emitDisconnected ∉ retOut ret := by
  cases ret <;> simp [retOut, delivered]

@[simp] theorem discEff_r (s : St) (tid k : Nat) : (discEff s tid k).1.r = s.r := by
  unfold discEff; split <;> rfl

@[simp] theorem discEff_locals (s : St) (tid k : Nat) : (discEff s tid k).1.locals = s.locals := by
  unfold discEff; split <;> rfl

@[simp] theorem discEff_remote (s : St) (tid k : Nat) : (discEff s tid k).1.remote = s.remote := by
  unfold discEff; split <;> rfl

theorem discEff_flag (h : 1 ≤ k → s.flag = false) : (discEff s tid k).1.flag = false :=
  match k with
  | 0 => rfl
  | 1 => h (Nat.le_refl 1)
  | k + 2 => h (Nat.le_add_left 1 (k + 1))

theorem discEff_out (s : St) (tid k : Nat) :
    ∃ y, (discEff s tid k).1.out = s.out ++ y ∧ delivered y = [] := by
  match k with
  | 0 => exact ⟨[], (List.append_nil _).symm, rfl⟩
  | 1 => exact ⟨[], (List.append_nil _).symm, rfl⟩
  | k + 2 =>
    simp only [discEff]
    split
    · exact ⟨[], (List.append_nil _).symm, rfl⟩
    · exact ⟨_, rfl, rfl⟩

/-! ### Invariant 1: who may be past the swap, and the single-shot event -/

structure Inv1 (s : St) : Prop where
  cnt : countDisc s.out = s.discFired.toNat
  firedFlag : s.discFired = true → s.flag = false
  shutFlag : s.shut = true → s.flag = false
  rpc : ∀ k, s.r = .disc k → 1 ≤ k → s.flag = false
  lpc : ∀ t ∈ s.locals, ∀ k ret, t.pc = .disc k ret → 1 ≤ k → s.flag = false

theorem mem_init_locals {remote : List RemoteEv} {progs : List (List LOp)}
    (h : t ∈ (init remote progs).locals) : ∃ p ∈ progs, t = ⟨.idle, p⟩ := by
  simpa [init, eq_comm] using h

theorem inv1_init (remote : List RemoteEv) (progs : List (List LOp)) : Inv1 (init remote progs) := by
  refine ⟨rfl, nofun, nofun, nofun, fun t ht k ret hpc => ?_⟩
  obtain ⟨p, _, rfl⟩ := mem_init_locals ht
  cases hpc

theorem Inv1.not_mem (h : Inv1 s) (hf : s.discFired = false) : Output.emitDisconnected ∉ s.out := by
  have := h.cnt
  rw [hf, countDisc_eq_count] at this
  exact List.count_eq_zero.mp this

theorem Inv1.discEff_cnt (h : Inv1 s) (tid k : Nat) :
    countDisc (discEff s tid k).1.out = (discEff s tid k).1.discFired.toNat := by
  match k with
  | 0 => exact h.cnt
  | 1 => exact h.cnt
  | k + 2 =>
    have := h.cnt
    cases hd : s.discFired <;> simp_all [discEff, countDisc_eq_count, List.count_append]

theorem Inv1.step (h : Inv1 s) (hs : Step s tid s') : Inv1 s' := by
  cases hs with
  | recv hr =>
    exact ⟨(countDisc_append_of_not_mem _ hr.not_mem).trans h.cnt, h.firedFlag, h.shutFlag,
      fun k hk h1 => by have := hr.pc.2.2 k hk; omega, h.lpc⟩
  | loc ht hl =>
    refine ⟨(countDisc_append_of_not_mem _ hl.log.2).trans h.cnt, h.firedFlag, h.shutFlag, h.rpc,
      fun u hu k ret hk h1 => ?_⟩
    rcases List.mem_or_eq_of_mem_set hu with hu | rfl
    · exact h.lpc u hu k ret hk h1
    · have := hl.pc.2 k ret hk; omega
  | rdisc hr =>
    have hf := discEff_flag (tid := 0) (h.rpc _ hr)
    exact ⟨h.discEff_cnt 0 _, fun _ => hf, fun _ => hf, fun _ _ _ => hf, fun _ _ _ _ _ _ => hf⟩
  | @ldisc i k ret ops ht =>
    have hf := discEff_flag (tid := i + 1) (h.lpc _ (List.mem_of_getElem? ht) k ret rfl)
    refine ⟨?_, fun _ => hf, fun _ => hf, fun _ _ _ => hf, fun _ _ _ _ _ _ => hf⟩
    refine (countDisc_append_of_not_mem _ ?_).trans (h.discEff_cnt _ _)
    split
    · simp
    · exact (retOut_log ret).2

theorem run_inv1 (h : Inv1 s) (sched : List Nat) : Inv1 (run s sched) :=
  run_induction (fun _ _ _ h hs => h.step hs) s sched h

theorem Inv1.fired (h : Inv1 s) (hm : Output.emitDisconnected ∈ s.out) : s.discFired = true :=
  Decidable.by_contra fun hd => h.not_mem (Bool.eq_false_iff.mpr hd) hm

theorem Inv1.not_mem_of_flag (h : Inv1 s) (hf : s.flag = true) : Output.emitDisconnected ∉ s.out :=
  fun hm => by simp [h.firedFlag (h.fired hm)] at hf

/-! ### Invariant 2: at most one delivery can follow the disconnected event -/

def Inv2 (s : St) : Prop := late s.out + inflight s.r ≤ 1

theorem inv2_init (remote : List RemoteEv) (progs : List (List LOp)) : Inv2 (init remote progs) :=
  Nat.zero_le 1

theorem ldisc_out (s : St) (tid k : Nat) (ret : Option SendErr) :
    ∃ y, ((discEff s tid k).1.out ++ if k < 2 then [] else retOut ret) = s.out ++ y ∧ delivered y = [] := by
  obtain ⟨y, hy, hd⟩ := discEff_out s tid k
  refine ⟨y ++ if k < 2 then [] else retOut ret, by rw [hy, List.append_assoc], ?_⟩
  rw [delivered_append, hd]
  split
  · rfl
  · exact (retOut_log ret).1

theorem Inv2.append (h2 : Inv2 s) {y : List Output} (hy : delivered y = []) {r' : RPc}
    (hr : inflight r' ≤ inflight s.r) : late (s.out ++ y) + inflight r' ≤ 1 := by
  have := late_append_le s.out y
  rw [hy] at this
  exact Nat.le_trans (Nat.add_le_add this hr) h2

theorem Inv2.step (h1 : Inv1 s) (h2 : Inv2 s) (hs : Step s tid s') : Inv2 s' := by
  cases hs with
  | @recv r' rem' x hr =>
    show late (s.out ++ x) + inflight r' ≤ 1
    cases hr with
    | testFrame _ hf =>
      -- the flag test has just succeeded: the event has not been published
      simp [late_of_not_mem (h1.not_mem_of_flag hf), inflight]
    | @publish m hr =>
      have := late_append_le s.out [.deliver m]
      simp [Inv2, hr, inflight, delivered] at h2 this ⊢
      omega
    | _ => exact h2.append rfl (by simp [inflight, *])
  | loc _ hl => exact h2.append hl.log.1 (Nat.le_refl _)
  | @rdisc k _ =>
    obtain ⟨y, hy, hd⟩ := discEff_out s 0 k
    show late (discEff s 0 k).1.out + inflight (if k < 2 then .disc (k + 1) else .dead) ≤ 1
    rw [hy]
    exact h2.append hd (by split <;> exact Nat.zero_le _)
  | @ldisc i k ret =>
    obtain ⟨y, hy, hd⟩ := ldisc_out s (i + 1) k ret
    show late (_ ++ _) + inflight (discEff s (i + 1) k).1.r ≤ 1
    rw [hy, discEff_r]
    exact h2.append hd (Nat.le_refl _)

theorem run_inv12 (h1 : Inv1 s) (h2 : Inv2 s) (sched : List Nat) : Inv1 (run s sched) ∧ Inv2 (run s sched) :=
  run_induction (P := fun s => Inv1 s ∧ Inv2 s) (fun _ _ _ h hs => ⟨h.1.step hs, h.2.step h.1 hs⟩) s sched ⟨h1, h2⟩

/-! ### Invariant 3: deliveries are taken in order from what arrived, each at most once -/

def track (s : St) : List Msg := delivered s.out ++ pending s.r ++ frames s.remote

/-- the receive thread moves a frame from the queue into its hand, from its hand into the log, or drops it -/
theorem RStep.track (h : RStep s r' rem' x) :
    (delivered x ++ pending r' ++ frames rem').Sublist (pending s.r ++ frames s.remote) := by
  cases h with
  | @read ev rest hr hrem => cases ev <;> simp [pending, frames, delivered, hr, hrem]
  | _ => simp [pending, frames, delivered, *]

theorem track_step (hs : Step s tid s') : (track s').Sublist (track s) := by
  cases hs with
  | recv hr =>
    simp only [track, delivered_append, List.append_assoc]
    exact (List.Sublist.refl _).append (by simpa using hr.track)
  | loc _ hl => simp [track, delivered_append, hl.log.1]
  | @rdisc k hr =>
    obtain ⟨y, hy, hd⟩ := discEff_out s 0 k
    have : pending (if k < 2 then .disc (k + 1) else .dead) = [] := by split <;> rfl
    simp [track, hy, delivered_append, hd, hr, this, show pending (.disc k) = [] from rfl]
  | @ldisc i k ret =>
    obtain ⟨y, hy, hd⟩ := ldisc_out s (i + 1) k ret
    simp [track, hy, delivered_append, hd]

theorem run_track (s : St) (sched : List Nat) : (track (run s sched)).Sublist (track s) :=
  run_induction (P := fun s' => (track s').Sublist (track s)) (fun _ _ _ h hs => (track_step hs).trans h) s sched
    (List.Sublist.refl _)

/-! ### Invariant K: without local `disconnect()` calls only the receive thread starts a disconnect -/

structure InvK (s : St) : Prop where
  quiet : Quiet s
  tru : s.flag = true → s.shut = false ∧ (∀ t ∈ s.locals, ∀ k ret, t.pc ≠ .disc k ret) ∧ (∀ k, s.r = .disc k → k = 0)
  fls : s.flag = false → s.r = .dead ∨ ∃ k, s.r = .disc k
  late0 : late s.out = 0

theorem invK_init (remote : List RemoteEv) (progs : List (List LOp))
    (hq : ∀ p ∈ progs, p.all quietOp = true) : InvK (init remote progs) := by
  refine ⟨fun t ht => ?_, fun _ => ⟨rfl, fun t ht k ret hpc => ?_, nofun⟩, nofun, rfl⟩
  · obtain ⟨p, hp, rfl⟩ := mem_init_locals ht
    simp [quietThread, hq p hp]
  · obtain ⟨p, _, rfl⟩ := mem_init_locals ht
    cases hpc

theorem LStep.quiet (h : LStep s t t' x) (hq : quietThread t = true) :
    quietThread t' = true ∧ ∀ k ret, t'.pc = .disc k ret → s.shut = true := by
  cases h <;> simp_all [quietThread, quietOp, canWrite]

theorem quietThread_next {ret : Option SendErr} {ops : List LOp} (hq : quietThread ⟨.disc k ret, ops⟩ = true) :
    quietThread ⟨if k < 2 then .disc (k + 1) ret else .idle, ops⟩ = true := by
  cases ret <;> split <;> simp_all [quietThread]

theorem InvK.step (h1 : Inv1 s) (hk : InvK s) (hs : Step s tid s') : InvK s' := by
  cases hs with
  | recv hr =>
    -- the receive thread is neither dead nor inside `disconnect()`: the flag is still set
    have hf : s.flag = true := by
      cases hf : s.flag with
      | true => rfl
      | false =>
        rcases hk.fls hf with h | ⟨k, h⟩
        · exact absurd h hr.pc.1
        · exact absurd h (hr.pc.2.1 k)
    have ⟨a, b, _⟩ := hk.tru hf
    refine ⟨hk.quiet, fun _ => ⟨a, b, hr.pc.2.2⟩, fun h => by simp [hf] at h, late_of_not_mem ?_⟩
    simp [h1.not_mem_of_flag hf, hr.not_mem]
  | @loc i t t' x ht hl =>
    have ⟨hq, hsh⟩ := hl.quiet (hk.quiet t (List.mem_of_getElem? ht))
    refine ⟨fun u hu => ?_, fun hf => ?_, hk.fls, late_append_zero hk.late0 hl.log.1⟩
    · rcases List.mem_or_eq_of_mem_set hu with hu | rfl
      · exact hk.quiet u hu
      · exact hq
    · have ⟨a, b, c⟩ := hk.tru hf
      refine ⟨a, fun u hu k ret hpc => ?_, c⟩
      rcases List.mem_or_eq_of_mem_set hu with hu | rfl
      · exact b u hu k ret hpc
      · simp [hsh k ret hpc] at a
  | @rdisc k hr =>
    have hf := discEff_flag (tid := 0) (h1.rpc k hr)
    obtain ⟨y, hy, hd⟩ := discEff_out s 0 k
    refine ⟨fun t ht => hk.quiet t (by simpa using ht), fun h => by simp [hf] at h, fun _ => ?_, ?_⟩
    · show (if k < 2 then RPc.disc (k + 1) else RPc.dead) = _ ∨ _
      split <;> simp
    · show late (discEff s 0 k).1.out = 0
      rw [hy]; exact late_append_zero hk.late0 hd
  | @ldisc i k ret ops ht =>
    have hmem := List.mem_of_getElem? ht
    have hq := hk.quiet _ hmem
    -- a local thread is inside `disconnect()`: the flag is already cleared
    have hff : s.flag = false := by
      cases hf : s.flag with
      | false => rfl
      | true => exact absurd rfl ((hk.tru hf).2.1 _ hmem k ret)
    have hf := discEff_flag (tid := i + 1) (k := k) (fun _ => hff)
    obtain ⟨y, hy, hd⟩ := ldisc_out s (i + 1) k ret
    refine ⟨fun u hu => ?_, fun h => by simp [hf] at h, fun _ => by simpa using hk.fls hff, ?_⟩
    · rcases List.mem_or_eq_of_mem_set hu with hu | rfl
      · exact hk.quiet u hu
      · exact quietThread_next hq
    · show late (_ ++ _) = 0
      rw [hy]; exact late_append_zero hk.late0 hd

theorem run_invK (h1 : Inv1 s) (hk : InvK s) (sched : List Nat) : InvK (run s sched) :=
  (run_induction (P := fun s => Inv1 s ∧ InvK s) (fun _ _ _ h hs => ⟨h.1.step hs, h.2.step h.1 hs⟩) s sched ⟨h1, hk⟩).2

/-! ### Invariant W: whoever holds the `tcp_writer` mutex across steps is about to release it -/

structure holderOk (s : St) : Prop where
  recv : s.wlock = some 0 → s.r = .disc 2
  loc : ∀ i, s.wlock = some (i + 1) → ∃ ret ops, s.locals[i]? = some ⟨.disc 2 ret, ops⟩

theorem holderOk_init (remote : List RemoteEv) (progs : List (List LOp)) : holderOk (init remote progs) :=
  ⟨nofun, nofun⟩

theorem holderOk.set (h : holderOk s) {i : Nat} (u : LThread) (ht : s.locals[i]? = some t)
    (hpc : ∀ ret, t.pc ≠ .disc 2 ret) (j : Nat) (hw : s.wlock = some (j + 1)) :
    ∃ ret ops, (s.locals.set i u)[j]? = some ⟨.disc 2 ret, ops⟩ := by
  obtain ⟨ret, ops, hj⟩ := h.loc j hw
  have hne : i ≠ j := by
    rintro rfl
    rw [ht] at hj
    cases hj
    exact hpc ret rfl
  exact ⟨ret, ops, by rw [List.getElem?_set_ne hne, hj]⟩

theorem holderOk.step (h : holderOk s) (hs : Step s tid s') : holderOk s' := by
  cases hs with
  | recv hr => exact ⟨fun hw => absurd (h.recv hw) (hr.pc.2.1 2), h.loc⟩
  | loc ht hl => exact ⟨h.recv, h.set _ ht (hl.pc.1 2)⟩
  | @rdisc k hr =>
    match k with
    | 0 => exact ⟨fun hw => absurd (hr.symm.trans (h.recv hw)) (by simp), h.loc⟩
    | 1 => exact ⟨fun _ => rfl, nofun⟩
    | k + 2 => exact ⟨nofun, nofun⟩
  | @ldisc i k ret ops ht =>
    match k with
    | 0 => exact ⟨h.recv, h.set _ ht nofun⟩
    | 1 =>
      refine ⟨nofun, fun j hw => ?_⟩
      cases hw
      exact ⟨ret, ops, by rw [List.getElem?_set_self', ht]; rfl⟩
    | k + 2 => exact ⟨nofun, nofun⟩

theorem run_holderOk (h : holderOk s) (sched : List Nat) : holderOk (run s sched) :=
  run_induction (fun _ _ _ h hs => h.step hs) s sched h

theorem holder_can_step (h : holderOk s) {x : Nat} (hw : s.wlock = some x) : (step s x).isSome = true := by
  cases x with
  | zero => simp [step, stepR, h.recv hw, discStep, discEff]
  | succ i =>
    obtain ⟨ret, ops, ht⟩ := h.loc i hw
    simp only [step, ht, stepL, discStep, discEff]
    cases ret <;> simp

end CG.Proofs.PeerConc
