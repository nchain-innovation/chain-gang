import CG.Proofs.WireCodec
import CG.Model.Wire.Messages
/-!
Every payload codec of `CG.Model.Wire.Messages` is lawful: a term built from the combinator laws,
mirroring the combinator expression that defines the codec.
-/
namespace CG.Model.Wire
open CG

theorem hash32_lawful : Lawful hash32 := bytesN_lawful 32
@[simp] theorem enc_hash32 (a : Bytes) : hash32.enc a = a := rfl

theorem outPointC_lawful : Lawful outPointC :=
  iso_lawful (pair_lawful hash32_lawful u32_lawful)

theorem txInC_lawful : Lawful txInC :=
  iso_lawful (pair_lawful outPointC_lawful (pair_lawful varBytes_lawful u32_lawful))

theorem txOutC_lawful : Lawful txOutC :=
  iso_lawful (pair_lawful i64_lawful varBytes_lawful)

theorem txC_lawful : Lawful txC :=
  iso_lawful
    (pair_lawful u32_lawful (pair_lawful (listCap_lawful txInC_lawful)
      (pair_lawful (listCap_lawful txOutC_lawful) u32_lawful)))

theorem blockHeaderC_lawful : Lawful blockHeaderC :=
  iso_lawful
    (pair_lawful u32_lawful (pair_lawful hash32_lawful (pair_lawful hash32_lawful
      (pair_lawful u32_lawful (pair_lawful u32_lawful u32_lawful)))))

theorem invVectC_lawful : Lawful invVectC :=
  iso_lawful (pair_lawful u32_lawful hash32_lawful)

theorem invC_lawful : Lawful invC :=
  iso_lawful (listMax_lawful invVectC_lawful _)

theorem blockLocatorC_lawful : Lawful blockLocatorC :=
  iso_lawful (pair_lawful u32_lawful (pair_lawful (listPush_lawful hash32_lawful) hash32_lawful))

theorem pingC_lawful : Lawful pingC := iso_lawful u64_lawful
theorem feeFilterC_lawful : Lawful feeFilterC := iso_lawful u64_lawful
theorem sendCmpctC_lawful : Lawful sendCmpctC :=
  iso_lawful (pair_lawful u8_lawful u64_lawful)

theorem nodeAddrC_lawful : Lawful nodeAddrC :=
  iso_lawful (pair_lawful u64_lawful (pair_lawful (bytesN_lawful 16) u16be_lawful))

theorem nodeAddrExC_lawful : Lawful nodeAddrExC :=
  iso_lawful (pair_lawful u32_lawful nodeAddrC_lawful)

theorem versionC_lawfulEnd : LawfulEnd versionC :=
  iso_lawfulEnd
    (pair_lawfulEnd u32_lawful (pair_lawfulEnd u64_lawful (pair_lawfulEnd i64_lawful
      (pair_lawfulEnd nodeAddrC_lawful (pair_lawfulEnd nodeAddrC_lawful (pair_lawfulEnd u64_lawful
        (pair_lawfulEnd varStr_lawful (pair_lawfulEnd i32_lawful
          (pair_lawfulEnd boolByte_lawful assocOpt_lawfulEnd)))))))))

theorem addrC_lawful : Lawful addrC :=
  iso_lawful (listMax_lawful nodeAddrExC_lawful _)

theorem headersC_lawful : Lawful headersC :=
  iso_lawful (listPush_lawful (pair_lawful blockHeaderC_lawful skipByte_lawful))
    (fun b => by
      cases b with
      | mk hs =>
        simp only [List.map_map]
        congr 1
        exact List.map_id' hs)
    (fun a _ => by
      simp only [List.map_map]
      exact List.map_id' a)

theorem blockC_lawful : Lawful blockC :=
  iso_lawful (pair_lawful blockHeaderC_lawful (listCap_lawful txC_lawful))

theorem merkleBlockC_lawful : Lawful merkleBlockC :=
  iso_lawful
    (pair_lawful blockHeaderC_lawful (pair_lawful u32_lawful
      (pair_lawful (listCap_lawful hash32_lawful) varBytes_lawful)))

theorem filterLoadC_lawful : Lawful filterLoadC :=
  iso_lawful (pair_lawful varBytes_lawful (pair_lawful u32_lawful (pair_lawful u32_lawful u8_lawful)))

theorem filterAddC_lawful : Lawful filterAddC := iso_lawful varBytes_lawful

theorem rejectC_lawful : Lawful rejectC :=
  iso_lawful
    (dpair_lawful varStr_lawful fun _ =>
      pair_lawful u8_lawful (pair_lawful varStr_lawful (vecBytes_lawful _)))

theorem protoconfC_lawful : Lawful protoconfC :=
  iso_lawful
    (dpair_lawful varint_lawful fun _ => pair_lawful u32_lawful (optionC_lawful varStr_lawful _ _))

theorem authchC_lawful : Lawful authchC :=
  iso_lawful (pair_lawful i32_lawful (dpair_lawful u32_lawful vecBytes_lawful))

theorem createstrmC_lawfulEnd : LawfulEnd createstrmC :=
  iso_lawfulEnd (pair_lawfulEnd assocAlways_lawful (pair_lawfulEnd u8_lawful policyOpt_lawfulEnd))

theorem streamackC_lawful : Lawful streamackC :=
  iso_lawful (pair_lawful assocAlways_lawful u8_lawful)

theorem prefilledC_lawful : Lawful prefilledC :=
  iso_lawful (pair_lawful varint_lawful txC_lawful)

theorem cmpctblockC_lawful : Lawful cmpctblockC :=
  iso_lawful
    (pair_lawful blockHeaderC_lawful (pair_lawful u64_lawful
      (pair_lawful (listTry_lawful (bytesN_lawful _)) (listTry_lawful prefilledC_lawful))))

theorem getblocktxnC_lawful : Lawful getblocktxnC :=
  iso_lawful (pair_lawful hash32_lawful (listTry_lawful varint_lawful))

theorem blocktxnC_lawful : Lawful blocktxnC :=
  iso_lawful (pair_lawful hash32_lawful (listTry_lawful txC_lawful))

theorem bip155C_lawful : Lawful bip155C :=
  dpair_lawful u8_lawful fun id => by
    by_cases h : 1 ≤ id ∧ id ≤ 6
    · simp only [h, and_self, if_true]
      exact inj_lawful (pair_lawful (constC_lawful varint_lawful _ _) (bytesN_lawful _))
        (fun b a e => by
          injection e with e
          subst e
          rfl)
        (fun a _ => rfl)
    · simp only [h, if_false]
      exact failAfter_lawful _ _

theorem nodeAddrExV2C_lawful : Lawful nodeAddrExV2C :=
  iso_lawful
    (pair_lawful u32_lawful (pair_lawful varint_lawful (pair_lawful bip155C_lawful u16be_lawful)))

theorem addrV2C_lawful : Lawful addrV2C :=
  iso_lawful (listMax_lawful nodeAddrExV2C_lawful _)

theorem allValidate_total {α} {v : α → Outcome Unit} (hv : ∀ a s, v a ≠ .panic s) (l : List α)
    (s : String) : allValidate v l ≠ .panic s := by
  induction l generalizing s with
  | nil => simp [allValidate]
  | cons a as ih => exact Outcome.bind_ne_panic (hv a) (fun _ => ih) s

theorem add_le_i64 {acc s : Int} (hacc : acc ≤ (Generated.MAX_SATOSHIS : Int))
    (hs : ¬ s > (Generated.MAX_SATOSHIS : Int)) : ¬ acc + s > I64_MAX := by
  have hM : (Generated.MAX_SATOSHIS : Int) = 2100000000000000 := by decide
  have hI : I64_MAX = 9223372036854775807 := rfl
  omega

/-- amounts and the running total are checked inside the loop, so the `i64` sum cannot overflow -/
theorem sumOutputs_total (l : List TxOut) (acc : Int) (hacc : acc ≤ (Generated.MAX_SATOSHIS : Int))
    (s : String) : sumOutputs l acc ≠ .panic s := by
  induction l generalizing acc with
  | nil => simp [sumOutputs]
  | cons o os ih =>
    simp only [sumOutputs]
    split
    · simp
    · split
      · simp
      · rename_i hs
        split
        · rename_i h
          exact absurd h (add_le_i64 hacc hs)
        · split
          · simp
          · exact ih _ (by omega)

theorem prefilledValidate_total (p : PrefilledTx) (s : String) : prefilledValidate p ≠ .panic s := by
  unfold prefilledValidate badData
  split
  · simp
  · split
    · simp
    · exact Outcome.bind_ne_panic (sumOutputs_total _ 0 (by decide)) (by simp) s

end CG.Model.Wire
