import CG.Proofs.InterpTotal
import CG.Proofs.InterpSpec
/-!
Structured control flow (C01 stretch): for scripts that parse into a well-nested program tree, the
flag machine of `core_eval` (flag stack + `skip_branch`) computes the big-step semantics of the tree,
which executes exactly one arm of every conditional.
-/
namespace CG.Proofs.InterpFlow
open CG CG.Model.ScriptNum CG.Model.Interp

/-- `skip_branch`'s loop with the canonical fuel -/
def skipFrom (script : Bytes) (i sub : Nat) : Nat := skipBranchLoop script (script.length + 1) i sub

theorem skipFrom_step (script : Bytes) (i sub : Nat) (h : i < script.length) :
    skipFrom script i sub =
      (let b := Model.Interp.byteAt script i
       if b = 99 ∨ b = 100 then skipFrom script (nextOp i script) (sub + 1)
       else if b = 103 then (if sub = 0 then i else skipFrom script (nextOp i script) sub)
       else if b = 104 then (if sub = 0 then i else skipFrom script (nextOp i script) (sub - 1))
       else skipFrom script (nextOp i script) sub) := by
  have h1 := nextOp_gt h
  have e : ∀ s, skipBranchLoop script script.length (nextOp i script) s
      = skipFrom script (nextOp i script) s := fun s =>
    (skipBranchLoop_fuel_succ script script.length (nextOp i script) s (by omega)).symm
  unfold skipFrom
  rw [skipBranchLoop.eq_2 script i sub script.length, if_pos h]
  simp only [e]
  rfl

def runFrom {σ : Type} (ex : Nat → Op → St σ → Outcome (Bool × St σ)) (script : Bytes)
    (i : Nat) (st : St σ) : Outcome (St σ × Nat) :=
  runWith ex script none (script.length + 1) i st

theorem runFrom_end {σ : Type} (ex : Nat → Op → St σ → Outcome (Bool × St σ)) (script : Bytes)
    (i : Nat) (st : St σ) (h : script.length ≤ i) : runFrom ex script i st = finish st i := by
  unfold runFrom
  rw [runWith_succ]
  unfold loopBody
  rw [if_neg (by omega)]

/-- shape of a well-nested script: a sequence of plain instructions and conditionals -/
inductive Prog
  | done
  | op (rest : Prog)
  | cond (neg hasElse : Bool) (thn els rest : Prog)
deriving Repr

abbrev bAt (script : Bytes) (i : Nat) : Nat := Model.Interp.byteAt script i

def isFlow (b : Nat) : Prop := b = 99 ∨ b = 100 ∨ b = 103 ∨ b = 104

instance (b : Nat) : Decidable (isFlow b) := by unfold isFlow; infer_instance

/-- `Parses script a T b`: the bytes `script[a..b)` are the program `T` — every plain instruction
    spans `[i, nextOp i)` and is not IF/NOTIF/ELSE/ENDIF; every conditional is
    `IF|NOTIF thn [ELSE els] ENDIF` with well-nested arms (at most one ELSE) -/
inductive Parses (script : Bytes) : Nat → Prog → Nat → Prop
  | done (a : Nat) (h : a ≤ script.length) : Parses script a .done a
  | op (a b : Nat) (rest : Prog) (h : a < script.length) (hb : ¬ isFlow (bAt script a))
      (hr : Parses script (nextOp a script) rest b) : Parses script a (.op rest) b
  | condNoElse (a m b : Nat) (neg : Bool) (thn rest : Prog) (h : a < script.length)
      (hb : bAt script a = if neg then 100 else 99)
      (ht : Parses script (a + 1) thn m) (hm : m < script.length) (hmb : bAt script m = 104)
      (hr : Parses script (m + 1) rest b) : Parses script a (.cond neg false thn .done rest) b
  | condElse (a m e b : Nat) (neg : Bool) (thn els rest : Prog) (h : a < script.length)
      (hb : bAt script a = if neg then 100 else 99)
      (ht : Parses script (a + 1) thn m) (hm : m < script.length) (hmb : bAt script m = 103)
      (he : Parses script (m + 1) els e) (hel : e < script.length) (heb : bAt script e = 104)
      (hr : Parses script (e + 1) rest b) : Parses script a (.cond neg true thn els rest) b

def endPos (script : Bytes) : Prog → Nat → Nat
  | .done, a => a
  | .op rest, a => endPos script rest (nextOp a script)
  | .cond _ hasElse thn els rest, a =>
    let m := endPos script thn (a + 1)
    let e := if hasElse then endPos script els (m + 1) else m
    endPos script rest (e + 1)

theorem endPos_eq {script : Bytes} {a b : Nat} {T : Prog} (h : Parses script a T b) :
    endPos script T a = b := by
  induction h with
  | done a h => rfl
  | op a b rest h hb hr ih => simpa [endPos] using ih
  | condNoElse a m b neg thn rest h hb ht hm hmb hr iht ihr => simp [endPos, iht, ihr]
  | condElse a m e b neg thn els rest h hb ht hm hmb he hel heb hr iht ihe ihr =>
    simp [endPos, iht, ihe, ihr]

theorem Parses.le {script : Bytes} {a b : Nat} {T : Prog} (h : Parses script a T b) :
    a ≤ b ∧ b ≤ script.length := by
  induction h with
  | done a h => omega
  | op a b rest h hb hr ih => have := nextOp_bounds h; omega
  | condNoElse a m b neg thn rest h hb ht hm hmb hr iht ihr => omega
  | condElse a m e b neg thn els rest h hb ht hm hmb he hel heb hr iht ihe ihr => omega

theorem skipFrom_flow {script : Bytes} {i : Nat} (h : i < script.length) (sub : Nat) :
    (bAt script i = 99 ∨ bAt script i = 100 → skipFrom script i sub = skipFrom script (i + 1) (sub + 1)) ∧
    (bAt script i = 103 → skipFrom script i (sub + 1) = skipFrom script (i + 1) (sub + 1)) ∧
    (bAt script i = 104 → skipFrom script i (sub + 1) = skipFrom script (i + 1) sub) := by
  refine ⟨fun hb => ?_, fun hb => ?_, fun hb => ?_⟩
  all_goals
    rw [skipFrom_step script i _ h, nextOp_single h (.inr (by simp only [bAt] at hb; omega))]
    simp only [bAt] at hb
    simp [hb]

theorem skip_block {script : Bytes} {a b : Nat} {T : Prog} (h : Parses script a T b) :
    ∀ sub, skipFrom script a sub = skipFrom script b sub := by
  induction h with
  | done a h => intro sub; rfl
  | op a b rest h hb hr ih =>
    intro sub
    rw [skipFrom_step script a sub h]
    simp only [isFlow, bAt] at hb
    simp only []
    rw [if_neg (by omega), if_neg (by omega), if_neg (by omega)]
    exact ih sub
  | condNoElse a m b neg thn rest h hb ht hm hmb hr iht ihr =>
    intro sub
    rw [(skipFrom_flow h sub).1 (by cases neg <;> simp [hb]), iht, (skipFrom_flow hm sub).2.2 hmb, ihr]
  | condElse a m e b neg thn els rest h hb ht hm hmb he hel heb hr iht ihe ihr =>
    intro sub
    rw [(skipFrom_flow h sub).1 (by cases neg <;> simp [hb]), iht, (skipFrom_flow hm sub).2.1 hmb, ihe,
      (skipFrom_flow hel sub).2.2 heb, ihr]

theorem skipBranch_block {script : Bytes} {a m : Nat} {T : Prog} (h : Parses script a T m)
    (hm : m < script.length) (hmb : bAt script m = 103 ∨ bAt script m = 104) :
    skipBranch script a = m := by
  show skipFrom script a 0 = m
  rw [skip_block h 0, skipFrom_step script m 0 hm]
  simp only [bAt] at hmb
  rcases hmb with hmb | hmb <;> simp [hmb]

/-- the model's arms for the four flow-control opcodes -/
def flowExec {σ : Type} (op : Op) (st : St σ) : Outcome (Bool × St σ) :=
  match op with
  | .if_ =>
    match popBool st.stack with
    | .ok (b, r) => .ok (false, { st with stack := r, branch := b :: st.branch })
    | .err e => .err e | .panic p => .panic p
  | .notif =>
    match popBool st.stack with
    | .ok (b, r) => .ok (false, { st with stack := r, branch := (!b) :: st.branch })
    | .err e => .err e | .panic p => .panic p
  | .else_ =>
    match st.branch with
    | [] => scriptErr
    | b :: bs => .ok (false, { st with branch := (!b) :: bs })
  | .endif =>
    match st.branch with
    | [] => scriptErr
    | _ :: bs => .ok (false, { st with branch := bs })
  | _ => scriptErr

/-- what the theorem needs of a per-opcode semantics: the four flow opcodes act on the flag stack as
    in `core_eval`, and no other opcode touches the flag stack -/
structure FlowSem {σ : Type} (ex : Nat → Op → St σ → Outcome (Bool × St σ)) : Prop where
  if_ : ∀ i st, ex i .if_ st = flowExec .if_ st
  notif : ∀ i st, ex i .notif st = flowExec .notif st
  else_ : ∀ i st, ex i .else_ st = flowExec .else_ st
  endif : ∀ i st, ex i .endif st = flowExec .endif st
  frame : ∀ i op st r, op ≠ .if_ → op ≠ .notif → op ≠ .else_ → op ≠ .endif →
    ex i op st = .ok r → r.2.branch = st.branch

def andThen {σ : Type} (r : Outcome (Bool × St σ × Nat))
    (k : St σ → Outcome (Bool × St σ × Nat)) : Outcome (Bool × St σ × Nat) :=
  match r with
  | .ok (false, st2, _) => k st2
  | .ok (true, st2, p) => .ok (true, st2, p)
  | .err e => .err e
  | .panic p => .panic p

/-- big-step semantics: run the instructions in order; at a conditional pop the condition and run
    exactly ONE arm (with the flag `true` on the flag stack), then the rest.  The result is
    `(stopped, state, position)`; `stopped` = an OP_RETURN ended the run at `position`. -/
def big {σ : Type} (ex : Nat → Op → St σ → Outcome (Bool × St σ)) (script : Bytes) :
    Prog → Nat → St σ → Outcome (Bool × St σ × Nat)
  | .done, a, st => .ok (false, st, a)
  | .op rest, a, st =>
    match ex a (decodeOp (script.getD a 0)) st with
    | .ok (true, st') => .ok (true, st', a)
    | .ok (false, st') => big ex script rest (nextOp a script) st'
    | .err e => .err e
    | .panic p => .panic p
  | .cond neg hasElse thn els rest, a, st =>
    match popBool st.stack with
    | .err e => .err e
    | .panic p => .panic p
    | .ok (c, r) =>
      let m := endPos script thn (a + 1)
      let e := if hasElse then endPos script els (m + 1) else m
      let st1 : St σ := { st with stack := r, branch := true :: st.branch }
      if c != neg then
        andThen (big ex script thn (a + 1) st1)
          (fun st2 => big ex script rest (e + 1) { st2 with branch := st.branch })
      else
        andThen (big ex script els (m + 1) st1)
          (fun st2 => big ex script rest (e + 1) { st2 with branch := st.branch })

/-- how the flag machine goes on after a block that ends at `b` -/
def cont {σ : Type} (ex : Nat → Op → St σ → Outcome (Bool × St σ)) (script : Bytes) (b : Nat)
    (r : Outcome (Bool × St σ × Nat)) : Outcome (St σ × Nat) :=
  match r with
  | .ok (false, st', _) => runFrom ex script b st'
  | .ok (true, st', p) => finish st' p
  | .err e => .err e
  | .panic p => .panic p

section steps
variable {σ : Type} (ex : Nat → Op → St σ → Outcome (Bool × St σ)) (script : Bytes)

theorem run_step (a m : Nat) (st : St σ) (ha : a < script.length) (hadv : advance script st a = m)
    (hm : m < script.length) :
    runFrom ex script a st =
      match ex m (decodeOp (script.getD m 0)) st with
      | .ok (true, st') => finish st' m
      | .ok (false, st') => runFrom ex script (nextOp m script) st'
      | .err e => .err e
      | .panic p => .panic p := by
  show runWith ex script none (script.length + 1) a st = _
  -- the recursive calls happen beyond `a`, where one unit of fuel less makes no difference
  rw [runWith_succ, loopBody_congr ex script none _ (runFrom ex script) a st fun j st' _ _ =>
    (runWith_fuel_succ ex script none script.length j st' (by omega) (by omega)).symm]
  unfold loopBody
  rw [if_pos ha]
  simp only [hadv]
  rw [if_neg (by omega)]
  rfl

theorem advance_of_ne_false (a : Nat) (st : St σ) (hnf : ∀ bs, st.branch ≠ false :: bs) :
    advance script st a = a := by
  unfold advance
  split
  · rename_i bs h; exact absurd h (hnf bs)
  · rfl

theorem advance_of_true (a : Nat) (st : St σ) {bs : List Bool} (hbr : st.branch = true :: bs) :
    advance script st a = a := by
  unfold advance; rw [hbr]

variable (hs : FlowSem ex)
include hs

theorem run_if (a : Nat) (neg : Bool) (st : St σ) (ha : a < script.length)
    (hb : bAt script a = if neg then 100 else 99) (hnf : ∀ bs, st.branch ≠ false :: bs) :
    runFrom ex script a st =
      match popBool st.stack with
      | .ok (c, r) => runFrom ex script (a + 1) { st with stack := r, branch := (c != neg) :: st.branch }
      | .err e => .err e
      | .panic p => .panic p := by
  obtain ⟨hif, hnotif, -⟩ := decodeOp_table (script.getD a 0)
  have hex : ex a (decodeOp (script.getD a 0)) st = flowExec (if neg then .notif else .if_) st := by
    cases neg
    · rw [hif.mpr hb, hs.if_]; rfl
    · rw [hnotif.mpr hb, hs.notif]; rfl
  rw [run_step ex script a a st ha (advance_of_ne_false script a st hnf) ha, hex,
    nextOp_single ha (.inr (by rw [show Model.Interp.byteAt script a = _ from hb]; split <;> decide))]
  cases neg
  all_goals
    unfold flowExec
    cases popBool st.stack with
    | ok cr =>
      obtain ⟨c, r⟩ := cr
      simp
    | err e => rfl
    | panic p => rfl

theorem run_else (a m : Nat) (st : St σ) (f : Bool) (bs : List Bool) (ha : a < script.length)
    (hadv : advance script st a = m) (hm : m < script.length) (hb : bAt script m = 103)
    (hbr : st.branch = f :: bs) :
    runFrom ex script a st = runFrom ex script (m + 1) { st with branch := (!f) :: bs } := by
  obtain ⟨-, -, helse, -⟩ := decodeOp_table (script.getD m 0)
  rw [run_step ex script a m st ha hadv hm, helse.mpr hb, hs.else_,
    nextOp_single hm (.inr (by rw [show Model.Interp.byteAt script m = _ from hb]; decide))]
  simp [flowExec, hbr]

theorem run_endif (a m : Nat) (st : St σ) (f : Bool) (bs : List Bool) (ha : a < script.length)
    (hadv : advance script st a = m) (hm : m < script.length) (hb : bAt script m = 104)
    (hbr : st.branch = f :: bs) :
    runFrom ex script a st = runFrom ex script (m + 1) { st with branch := bs } := by
  obtain ⟨-, -, -, hendif, -⟩ := decodeOp_table (script.getD m 0)
  rw [run_step ex script a m st ha hadv hm, hendif.mpr hb, hs.endif,
    nextOp_single hm (.inr (by rw [show Model.Interp.byteAt script m = _ from hb]; decide))]
  simp [flowExec, hbr]

end steps

/-- after the arm of a conditional has been run (flag `true` on top), the machine and the big-step
    semantics continue alike: shared tail of the four cases below -/
theorem arm_tail {σ : Type} (ex : Nat → Op → St σ → Outcome (Bool × St σ)) (script : Bytes)
    (x e b : Nat) (rest : Prog) (st st1 : St σ) (armRes : Outcome (Bool × St σ × Nat))
    (hbr1 : st1.branch = true :: st.branch)
    (harm : ∀ st2 q, armRes = .ok (false, st2, q) → st2.branch = st1.branch)
    (hjoin : ∀ st2, st2.branch = true :: st.branch →
      runFrom ex script x st2 = runFrom ex script (e + 1) { st2 with branch := st.branch })
    (ihr : ∀ st' : St σ, (∀ bs, st'.branch ≠ false :: bs) →
      runFrom ex script (e + 1) st' = cont ex script b (big ex script rest (e + 1) st') ∧
      ∀ st'' q, big ex script rest (e + 1) st' = .ok (false, st'', q) → st''.branch = st'.branch)
    (hnf : ∀ bs, st.branch ≠ false :: bs) :
    cont ex script x armRes =
      cont ex script b (andThen armRes
        (fun st2 => big ex script rest (e + 1) { st2 with branch := st.branch })) ∧
    ∀ st'' q, andThen armRes
        (fun st2 => big ex script rest (e + 1) { st2 with branch := st.branch }) = .ok (false, st'', q) →
      st''.branch = st.branch := by
  cases armRes with
  | ok res =>
    obtain ⟨s, st2, q⟩ := res
    cases s
    · have h2 := (harm st2 q rfl).trans hbr1
      obtain ⟨i1, i2⟩ := ihr { st2 with branch := st.branch } hnf
      exact ⟨(hjoin st2 h2).trans i1, i2⟩
    · exact ⟨rfl, nofun⟩
  | err e => exact ⟨rfl, nofun⟩
  | panic p => exact ⟨rfl, nofun⟩

/-- On a script that parses into a program tree, the flag machine started at the beginning of a block
    (innermost flag not `false`) behaves as the big-step semantics of the block followed by the machine
    from the end of the block; and a block that completes leaves the flag stack as it found it. -/
theorem flow_main {σ : Type} (ex : Nat → Op → St σ → Outcome (Bool × St σ)) (script : Bytes)
    (hs : FlowSem ex) {a b : Nat} {T : Prog} (h : Parses script a T b) :
    ∀ st : St σ, (∀ bs, st.branch ≠ false :: bs) →
      runFrom ex script a st = cont ex script b (big ex script T a st) ∧
      ∀ st' q, big ex script T a st = .ok (false, st', q) → st'.branch = st.branch := by
  induction h with
  | done a h =>
    intro st hnf
    refine ⟨rfl, ?_⟩
    intro st' q hq
    simp only [big, Outcome.ok.injEq, Prod.mk.injEq, true_and] at hq
    rw [← hq.1]
  | op a b rest h hb hr ih =>
    intro st hnf
    obtain ⟨hif, hnotif, helse, hendif, -⟩ := decodeOp_table (script.getD a 0)
    unfold isFlow at hb
    have hframe := hs.frame a (decodeOp (script.getD a 0)) st
    rw [run_step ex script a a st h (advance_of_ne_false script a st hnf) h]
    simp only [big]
    cases hex : ex a (decodeOp (script.getD a 0)) st with
    | ok r =>
      obtain ⟨s, st'⟩ := r
      have hbr : st'.branch = st.branch :=
        hframe (s, st') (fun hc => hb (.inl (hif.mp hc))) (fun hc => hb (.inr (.inl (hnotif.mp hc))))
          (fun hc => hb (.inr (.inr (.inl (helse.mp hc))))) (fun hc => hb (.inr (.inr (.inr (hendif.mp hc)))))
          hex
      cases s
      · obtain ⟨i1, i2⟩ := ih st' (by rw [hbr]; exact hnf)
        exact ⟨i1, fun st'' q hq => (i2 st'' q hq).trans hbr⟩
      · exact ⟨rfl, nofun⟩
    | err e => exact ⟨rfl, nofun⟩
    | panic p => exact ⟨rfl, nofun⟩
  | condNoElse a m b neg thn rest h hb ht hm hmb hr iht ihr =>
    intro st hnf
    have hlt := ht.le
    rw [run_if ex script hs a neg st h hb hnf]
    simp only [big, endPos_eq ht, Bool.false_eq_true, if_false]
    cases hp : popBool st.stack with
    | err e => exact ⟨rfl, nofun⟩
    | panic p => exact ⟨rfl, nofun⟩
    | ok cr =>
      obtain ⟨c, r⟩ := cr
      simp only []
      cases hc : (c != neg)
      · simp only [Bool.false_eq_true, if_false]
        rw [run_endif ex script hs (a + 1) m { st with stack := r, branch := false :: st.branch } false
          st.branch (by omega) (skipBranch_block ht hm (Or.inr hmb)) hm hmb rfl]
        exact ihr { st with stack := r } hnf
      · simp only [if_true]
        obtain ⟨t1, t2⟩ := iht { st with stack := r, branch := true :: st.branch }
          (by intro bs hh; cases hh)
        rw [t1]
        exact arm_tail ex script m m b rest st _ _ rfl t2
          (fun st2 h2 => run_endif ex script hs m m st2 true _ hm (advance_of_true script m st2 h2) hm hmb h2)
          ihr hnf
  | condElse a m e b neg thn els rest h hb ht hm hmb he hel heb hr iht ihe ihr =>
    intro st hnf
    have hlt := ht.le
    have hle := he.le
    rw [run_if ex script hs a neg st h hb hnf]
    simp only [big, endPos_eq ht, endPos_eq he, if_true]
    cases hp : popBool st.stack with
    | err e => exact ⟨rfl, nofun⟩
    | panic p => exact ⟨rfl, nofun⟩
    | ok cr =>
      obtain ⟨c, r⟩ := cr
      simp only []
      cases hc : (c != neg)
      · simp only [Bool.false_eq_true, if_false]
        obtain ⟨t1, t2⟩ := ihe { st with stack := r, branch := true :: st.branch }
          (by intro bs hh; cases hh)
        rw [(run_else ex script hs (a + 1) m { st with stack := r, branch := false :: st.branch } false
          st.branch (by omega) (skipBranch_block ht hm (Or.inl hmb)) hm hmb rfl).trans t1]
        exact arm_tail ex script e e b rest st _ _ rfl t2
          (fun st2 h2 => run_endif ex script hs e e st2 true _ hel (advance_of_true script e st2 h2) hel heb h2)
          ihr hnf
      · simp only [if_true]
        obtain ⟨t1, t2⟩ := iht { st with stack := r, branch := true :: st.branch }
          (by intro bs hh; cases hh)
        rw [t1]
        refine arm_tail ex script m e b rest st _ _ rfl t2 ?_ ihr hnf
        intro st2 h2
        exact (run_else ex script hs m m st2 true _ hm (advance_of_true script m st2 h2) hm hmb h2).trans
          (run_endif ex script hs (m + 1) e { st2 with branch := false :: st.branch } false st.branch
            (by omega) (skipBranch_block he hel (Or.inr heb)) hel heb rfl)

theorem model_flowSem {σ : Type} (H : Hashes) (C : Checker σ) (pre : Bool) (script : Bytes) :
    FlowSem (exec H C pre script) where
  if_ := fun _ _ => rfl
  notif := fun _ _ => rfl
  else_ := fun _ _ => rfl
  endif := fun _ _ => rfl
  frame := fun i op st r _ _ _ _ h =>
    (post_exec (P := fun st' => st'.branch = st.branch) (Q := True) H C pre script i op st (.inl trivial)
      (fun _ _ _ => rfl) (fun _ => rfl)
      (by rintro (rfl | rfl | rfl | rfl) <;> contradiction)).of_ok (b := r.1) (st' := r.2) h

theorem spec_flowSem {σ : Type} (H : Hashes) (C : Checker σ) (pre : Bool) (script : Bytes) :
    FlowSem (Spec.ScriptSem.exec H C pre script) where
  if_ := fun _ _ => rfl
  notif := fun _ _ => rfl
  else_ := fun _ _ => rfl
  endif := fun _ _ => rfl
  frame := fun i op st r _ _ _ _ h =>
    (InterpSpec.post_specExec (P := fun st' => st'.branch = st.branch) (Q := True) H C pre script i op st
      (.inl trivial)
      (fun _ _ _ => rfl) (fun _ => rfl)
      (by rintro (rfl | rfl | rfl | rfl) <;> contradiction)).of_ok (b := r.1) (st' := r.2) h

theorem run_structured {σ : Type} (ex : Nat → Op → St σ → Outcome (Bool × St σ)) (script : Bytes)
    (hs : FlowSem ex) {a : Nat} {T : Prog} (h : Parses script a T script.length)
    (st : St σ) (hbr : st.branch = []) :
    runWith ex script none (script.length + 1) a st =
      match big ex script T a st with
      | .ok (false, st', _) => .ok (st', script.length)
      | .ok (true, st', p) => finish st' p
      | .err e => .err e
      | .panic p => .panic p := by
  obtain ⟨h1, h2⟩ := flow_main ex script hs h st (by rw [hbr]; intro bs hh; cases hh)
  show runFrom ex script a st = _
  rw [h1]
  cases hb : big ex script T a st with
  | ok res =>
    obtain ⟨s, st', q⟩ := res
    cases s
    · have := (h2 st' q hb).trans hbr
      simp only [cont]
      rw [runFrom_end _ _ _ _ (Nat.le_refl _)]
      simp [finish, this]
    · rfl
  | err e => rfl
  | panic p => rfl

end CG.Proofs.InterpFlow
