import CG.Model.Rx
import CG.Spec.EventSpec
/-!
C13 — helper lemmas and invariants for the model of `util::rx` (`CG.Model.Rx`): the state-update algebra,
settledness (after a step no marker stands at the head of a continuation), and the invariant `Inv3` of the repaired
algorithm, whatever the subject.  Deadlock freedom and "no lost wake-up" follow from it.
-/
namespace CG.Model.Rx

@[simp] theorem upd_same {α : Type} (f : Nat → α) (i : Nat) (v : α) : upd f i v i = v := by simp [upd]
theorem upd_apply {α : Type} (f : Nat → α) (i j : Nat) (v : α) : upd f i v j = if j = i then v else f j := rfl
@[simp] theorem upd_other {α : Type} (f : Nat → α) (i j : Nat) (v : α) (h : j ≠ i) : upd f i v j = f j := by
  simp [upd, h]
theorem upd2_apply {α : Type} (f : Nat → Nat → α) (i k a b : Nat) (v : α) :
    upd2 f i k v a b = if a = i ∧ b = k then v else f a b := rfl
@[simp] theorem upd2_same {α : Type} (f : Nat → Nat → α) (i k : Nat) (v : α) : upd2 f i k v i k = v := by
  simp [upd2]

namespace Sys
variable (s : Sys) (t : Tid) (th : Thread) (c : List Instr) (ev : HEv)

@[simp] theorem setThr_thr : (s.setThr t th).thr = upd s.thr t th := rfl
@[simp] theorem setThr_algo : (s.setThr t th).algo = s.algo := rfl
@[simp] theorem setThr_kind : (s.setThr t th).kind = s.kind := rfl
@[simp] theorem setThr_behs : (s.setThr t th).behs = s.behs := rfl
@[simp] theorem setThr_n : (s.setThr t th).n = s.n := rfl
@[simp] theorem setThr_owner : (s.setThr t th).owner = s.owner := rfl
@[simp] theorem setThr_observers : (s.setThr t th).observers = s.observers := rfl
@[simp] theorem setThr_pending : (s.setThr t th).pending = s.pending := rfl
@[simp] theorem setThr_value : (s.setThr t th).value = s.value := rfl
@[simp] theorem setThr_lockM : (s.setThr t th).lockM = s.lockM := rfl
@[simp] theorem setThr_lockV : (s.setThr t th).lockV = s.lockV := rfl
@[simp] theorem setThr_lockO : (s.setThr t th).lockO = s.lockO := rfl
@[simp] theorem setThr_lockP : (s.setThr t th).lockP = s.lockP := rfl
@[simp] theorem setThr_lockL : (s.setThr t th).lockL = s.lockL := rfl
@[simp] theorem setThr_lockR : (s.setThr t th).lockR = s.lockR := rfl
@[simp] theorem setThr_lOpen : (s.setThr t th).lOpen = s.lOpen := rfl
@[simp] theorem setThr_rVal : (s.setThr t th).rVal = s.rVal := rfl
@[simp] theorem setThr_nextId : (s.setThr t th).nextId = s.nextId := rfl
@[simp] theorem setThr_hist : (s.setThr t th).hist = s.hist := rfl

theorem setCont_eq : s.setCont t c = s.setThr t { s.thr t with cont := c } := rfl

@[simp] theorem log_thr : (s.log ev).thr = s.thr := rfl
@[simp] theorem log_algo : (s.log ev).algo = s.algo := rfl
@[simp] theorem log_kind : (s.log ev).kind = s.kind := rfl
@[simp] theorem log_behs : (s.log ev).behs = s.behs := rfl
@[simp] theorem log_n : (s.log ev).n = s.n := rfl
@[simp] theorem log_owner : (s.log ev).owner = s.owner := rfl
@[simp] theorem log_observers : (s.log ev).observers = s.observers := rfl
@[simp] theorem log_pending : (s.log ev).pending = s.pending := rfl
@[simp] theorem log_value : (s.log ev).value = s.value := rfl
@[simp] theorem log_lockM : (s.log ev).lockM = s.lockM := rfl
@[simp] theorem log_lockV : (s.log ev).lockV = s.lockV := rfl
@[simp] theorem log_lockO : (s.log ev).lockO = s.lockO := rfl
@[simp] theorem log_lockP : (s.log ev).lockP = s.lockP := rfl
@[simp] theorem log_lockL : (s.log ev).lockL = s.lockL := rfl
@[simp] theorem log_lockR : (s.log ev).lockR = s.lockR := rfl
@[simp] theorem log_lOpen : (s.log ev).lOpen = s.lOpen := rfl
@[simp] theorem log_rVal : (s.log ev).rVal = s.rVal := rfl
@[simp] theorem log_nextId : (s.log ev).nextId = s.nextId := rfl
@[simp] theorem log_hist : (s.log ev).hist = s.hist ++ [ev] := rfl

end Sys

/-- the event(s) recorded by the first lock operation of a `subscribe` call -/
def beginEvs (t : Tid) (o : Ob) (c : Nat) : List HEv :=
  match o with
  | .user _ => [.subBegin t o c]
  | .poller _ k => [.pollBegin t k, .subBegin t o c]

namespace Sys
variable (s : Sys) (t : Tid) (o : Ob) (c : Nat)
@[simp] theorem recBegin_eq : s.recBegin t o c = { s with hist := s.hist ++ beginEvs t o c } := by
  cases o <;> simp [recBegin, beginEvs, log]
@[simp] theorem recBegin_nextId : (s.recBegin t o c).nextId = s.nextId := by cases o <;> rfl
end Sys

def hd (s : Sys) (u : Tid) : Option Instr := (s.thr u).cont.head?

def Instr.isMarker : Instr → Bool
  | .mSubRet _ _ | .mSnapDrop _ | .mPubEnd _ _ | .mPollRet _ | .pIter _ _ _ _ _ => true
  | _ => false

/-- instructions of the repaired algorithm (and the algorithm-independent ones) -/
def Instr.isRep : Instr → Bool
  | .pTryO _ | .pTryOIn _ _ | .pRelO | .pWritePPush _ _ | .pRelP | .pReadO _ | .pReadOIn _ _ | .pWriteORetain
  | .pReadP | .pWriteO | .pWritePAppend | .pqWriteV _ | .pqReadV _ | .pIter _ _ _ _ _ => false
  | _ => true

/-- instructions that are only ever created at the head of a continuation, by the step that acquired
    the lock they are going to release (or hand on) -/
def Instr.headOnly : Instr → Bool
  | .relM | .relMR | .relSnap _ _ _ | .acqPushR _ _ | .relRead | .relWrite
  | .getWait _ _ | .getReacq _ _ | .getUnlockL _ _ | .getLockR _ _ | .getUnlockR _ _
  | .putLockL _ _ | .putNotify _ _ | .putUnlockL _ _ | .putUnlockR _ _ => true
  | _ => false

/-! `holdsM`, `holdsVr`, `holdsVw`, `holdsL a k`, `holdsR a k`: the instructions that stand at the head of a
continuation exactly while its thread holds the mutex `M`, a read hold or the write hold of the value lock `V`,
the mutex of latch `(a, k)`, the mutex of future `(a, k)`.  `HL` below states this correspondence. -/

def Instr.holdsM : Instr → Bool
  | .relM | .relMR | .relSnap _ _ _ => true
  | _ => false
def Instr.holdsVr : Instr → Bool
  | .acqPushR _ _ | .relMR | .relRead => true
  | _ => false
def Instr.holdsVw : Instr → Bool
  | .relWrite => true
  | _ => false
def Instr.holdsL (a k : Nat) (i : Instr) : Bool :=
  i = .getUnlockL a k || i = .getWait a k || i = .putNotify a k || i = .putUnlockL a k
def Instr.holdsR (a k : Nat) (i : Instr) : Bool :=
  i = .getUnlockR a k || i = .putLockL a k || i = .putNotify a k || i = .putUnlockL a k || i = .putUnlockR a k

def SettledAt (s : Sys) (t : Tid) : Prop :=
  match (s.thr t).cont with
  | [] => (s.thr t).prog = []
  | i :: _ => i.isMarker = false

def popMark (s : Sys) (t : Tid) (m : Instr) (k : List Instr) : Sys :=
  match m with
  | .mSubRet o c => (s.log (.subRet t o c)).setCont t k
  | .mSnapDrop _ => s.setCont t k
  | .mPubEnd e p => (s.log (.pubEnd t e p)).setCont t k
  | .mPollRet i => (s.log (.pollRet t i (s.thr t).reg)).setCont t k
  | _ => s

@[simp] theorem popMark_cont (s : Sys) (t : Tid) (m : Instr) (k : List Instr) (hm : m.isMarker = true) (hr : m.isRep = true) :
    ((popMark s t m k).thr t).cont = k := by
  cases m <;> simp [Instr.isMarker, Instr.isRep] at hm hr <;> simp [popMark, Sys.setCont_eq]

theorem settle_nil (fuel : Nat) {s : Sys} {t : Tid} (hc : (s.thr t).cont = []) :
    settle (fuel + 1) s t = expand s t := by
  simp only [settle, hc]

theorem settle_marker (fuel : Nat) {s : Sys} {t : Tid} {m : Instr} {k : List Instr} (hc : (s.thr t).cont = m :: k)
    (hm : m.isMarker = true) (hr : m.isRep = true) : settle (fuel + 1) s t = settle fuel (popMark s t m k) t := by
  cases m <;> simp [Instr.isMarker, Instr.isRep] at hm hr <;> simp only [settle, hc, popMark]

theorem settle_head (fuel : Nat) {s : Sys} {t : Tid} {i : Instr} {k : List Instr} (hc : (s.thr t).cont = i :: k)
    (hi : i.isMarker = false) : settle (fuel + 1) s t = s := by
  cases i <;> simp [Instr.isMarker] at hi <;> simp only [settle, hc]

theorem settle_ind (P : Sys → Prop) (t : Tid)
    (hpop : ∀ s m k, P s → (s.thr t).cont = m :: k → m.isMarker = true → m.isRep = true → P (popMark s t m k))
    (hexp : ∀ s, P s → (s.thr t).cont = [] → P (expand s t))
    (hrep : ∀ s m k, P s → (s.thr t).cont = m :: k → m.isRep = true) :
    ∀ fuel s, P s → P (settle fuel s t) := by
  intro fuel
  induction fuel with
  | zero => intro s h; exact h
  | succ f ih =>
    intro s h
    cases hc : (s.thr t).cont with
    | nil => rw [settle_nil f hc]; exact hexp s h hc
    | cons m k =>
      cases hm : m.isMarker with
      | false => rw [settle_head f hc hm]; exact h
      | true =>
        have hr := hrep s m k h hc
        rw [settle_marker f hc hm hr]
        exact ih _ (hpop s m k h hc hm hr)

/-- the instructions of an operation, as laid down by `expand` -/
def opInstrs (s : Sys) (t : Tid) (op : Op) : List Instr :=
  match op with
  | .sub o => if s.owner o then subInstrs s.algo s.kind (.user o) else [.noop]
  | .pub e => pubInstrs s.algo s.kind e
  | .poll => subInstrs s.algo s.kind (.poller t (s.thr t).opIdx) ++
      [Instr.getLockL t (s.thr t).opIdx, Instr.mPollRet (s.thr t).opIdx]
  | .drop o => [.dropO o]

theorem expand_nil (s : Sys) (t : Tid) (h : (s.thr t).prog = []) : expand s t = s := by
  simp [expand, h]

theorem expand_cons (s : Sys) (t : Tid) (op : Op) (ops : List Op) (h : (s.thr t).prog = op :: ops) :
    expand s t = s.setThr t
      { s.thr t with prog := ops, opIdx := (s.thr t).opIdx + 1, cont := opInstrs s t op } := by
  cases op with
  | sub o => by_cases ho : s.owner o = true <;> simp [expand, h, ho, opInstrs]
  | pub e => simp [expand, h, opInstrs]
  | poll => simp [expand, h, opInstrs]
  | drop o => simp [expand, h, opInstrs]

theorem opInstrs_head_not_marker (s : Sys) (t : Tid) (op : Op) :
    ∃ i k, opInstrs s t op = i :: k ∧ i.isMarker = false := by
  cases op with
  | sub o =>
    by_cases ho : s.owner o = true
    · cases ha : s.algo <;> cases hk : s.kind <;> simp [opInstrs, ho, subInstrs, Instr.isMarker, ha, hk]
    · simp [opInstrs, ho, Instr.isMarker]
  | pub e => cases ha : s.algo <;> cases hk : s.kind <;> simp [opInstrs, pubInstrs, Instr.isMarker, ha, hk]
  | poll => cases ha : s.algo <;> cases hk : s.kind <;> simp [opInstrs, subInstrs, Instr.isMarker, ha, hk]
  | drop o => simp [opInstrs, Instr.isMarker]

theorem expand_settledAt (s : Sys) (t : Tid) (hc : (s.thr t).cont = []) : SettledAt (expand s t) t := by
  cases hp : (s.thr t).prog with
  | nil => rw [expand_nil s t hp]; simp [SettledAt, hc, hp]
  | cons op ops =>
    rw [expand_cons s t op ops hp]
    obtain ⟨i, k, h1, h2⟩ := opInstrs_head_not_marker s t op
    simp [SettledAt, h1, h2]

theorem settle_settledAt (t : Tid) : ∀ fuel (s : Sys), (s.thr t).cont.length < fuel →
    (∀ i ∈ (s.thr t).cont, i.isRep = true) → SettledAt (settle fuel s t) t := by
  intro fuel
  induction fuel with
  | zero => intro s h; omega
  | succ f ih =>
    intro s hlen hrep
    cases hc : (s.thr t).cont with
    | nil => rw [settle_nil f hc]; exact expand_settledAt s t hc
    | cons m k =>
      rw [hc] at hlen hrep
      cases hm : m.isMarker with
      | false => rw [settle_head f hc hm]; simp [SettledAt, hc, hm]
      | true =>
        have hr := hrep m List.mem_cons_self
        rw [settle_marker f hc hm hr]
        apply ih
        · rw [popMark_cont s t m k hm hr]; exact Nat.lt_of_succ_lt_succ hlen
        · rw [popMark_cont s t m k hm hr]; exact fun i hi => hrep i (List.mem_cons_of_mem _ hi)

section
variable {s s1 : Sys} {t : Tid} {i : Instr} {new : List Instr}

/-- the thread whose latch / future a `get…` instruction works on -/
def Instr.getOwner : Instr → Option Nat
  | .getLockL a _ | .getWait a _ | .getReacq a _ | .getUnlockL a _ | .getLockR a _ | .getUnlockR a _ => some a
  | _ => none

def Instr.touchesL : Instr → Bool
  | .getLockL _ _ | .getWait _ _ | .getReacq _ _ | .getUnlockL _ _ | .putLockL _ _ | .putNotify _ _ | .putUnlockL _ _ => true
  | _ => false
def Instr.touchesR : Instr → Bool
  | .getLockR _ _ | .getUnlockR _ _ | .putLockR _ _ _ _ _ | .putLockL _ _ | .putNotify _ _ | .putUnlockL _ _ | .putUnlockR _ _ => true
  | _ => false

theorem execE_frame (h : execE s t i = some (s1, new)) :
    (s1.algo = s.algo ∧ s1.kind = s.kind ∧ s1.behs = s.behs ∧ s1.n = s.n) ∧
    (∀ u, (s1.thr u).cont = (s.thr u).cont ∧ (s1.thr u).prog = (s.thr u).prog ∧ (s1.thr u).opIdx = (s.thr u).opIdx) ∧
    (i.touchesL = false → s1.lockL = s.lockL ∧ s1.lOpen = s.lOpen ∧ ∀ u, (s1.thr u).woken = (s.thr u).woken) ∧
    (i.touchesR = false → s1.lockR = s.lockR) := by
  -- One goal per instruction.  `split` decides the guard of `execE` (is the lock free?) and, for `deliver`,
  -- `acqRead` and `acqWrite`, the inner `match`; `simp` drops the branches where `execE` is `none`; what is
  -- left of `h` gives `s1` and `new` in closed form.  The case analyses over `execE` below start the same way.
  cases i <;> simp only [execE] at h
  all_goals ((try split at h) <;> (try split at h) <;> (try simp at h))
  all_goals (try (obtain ⟨rfl, rfl⟩ := h))
  -- all but the instructions of the latch and future protocols change none of these fields
  all_goals (try (exact ⟨⟨rfl, rfl, rfl, rfl⟩, fun _ => ⟨rfl, rfl, rfl⟩, fun _ => ⟨rfl, rfl, fun _ => rfl⟩, fun _ => rfl⟩))
  all_goals (simp [Instr.touchesL, Instr.touchesR, upd_apply, apply_ite])
  -- `getWait`, `getReacq`, `getLockR`, `putNotify` replace a thread record, keeping these three fields
  all_goals exact fun u => ⟨fun h => h ▸ rfl, fun h => h ▸ rfl, fun h => h ▸ rfl⟩

theorem execE_thr (h : execE s t i = some (s1, new)) (u : Tid) :
    (s1.thr u).cont = (s.thr u).cont ∧ (s1.thr u).prog = (s.thr u).prog ∧ (s1.thr u).opIdx = (s.thr u).opIdx :=
  (execE_frame h).2.1 u

theorem execE_static (h : execE s t i = some (s1, new)) :
    s1.algo = s.algo ∧ s1.kind = s.kind ∧ s1.behs = s.behs ∧ s1.n = s.n :=
  (execE_frame h).1

/-- inside the protocol of some latch: holding its mutex, or asleep in its `Condvar::wait` -/
def Instr.inL : Instr → Bool
  | .getWait _ _ | .getReacq _ _ | .getUnlockL _ _ | .putNotify _ _ | .putUnlockL _ _ => true
  | _ => false
/-- holding the mutex of some future -/
def Instr.inR : Instr → Bool
  | .getUnlockR _ _ | .putLockL _ _ | .putNotify _ _ | .putUnlockL _ _ | .putUnlockR _ _ => true
  | _ => false

theorem headOnly_of_inL {i : Instr} (h : i.inL = true) : i.headOnly = true := by
  cases i <;> first | rfl | cases h
theorem headOnly_of_inR {i : Instr} (h : i.inR = true) : i.headOnly = true := by
  cases i <;> first | rfl | cases h
theorem inL_of_holdsL {a k : Nat} {i : Instr} (h : i.holdsL a k = true) : i.inL = true := by
  simp [Instr.holdsL] at h; rcases h with ((rfl | rfl) | rfl) | rfl <;> rfl
theorem inR_of_holdsR {a k : Nat} {i : Instr} (h : i.holdsR a k = true) : i.inR = true := by
  simp [Instr.holdsR] at h; rcases h with (((rfl | rfl) | rfl) | rfl) | rfl <;> rfl

/-- The shape of the continuations under the repaired algorithm: only its instructions, none beyond thread `n`. -/
structure HA (s : Sys) : Prop where
  rep : s.algo = .repaired
  fam : ∀ t, ∀ i ∈ (s.thr t).cont, i.isRep = true
  beyond : ∀ t, s.n ≤ t → (s.thr t).cont = [] ∧ (s.thr t).prog = []
  tf : ∀ t, ∀ i ∈ (s.thr t).cont.tail, i.headOnly = false  -- tails are free of head-only instructions
  go : ∀ t, ∀ i ∈ (s.thr t).cont, ∀ a, i.getOwner = some a → a = t  -- `get…` only on the thread's own latch

theorem HA.lt_n {s : Sys} (H : HA s) {t : Tid} (h : (s.thr t).cont ≠ [] ∨ (s.thr t).prog ≠ []) : t < s.n := by
  apply Nat.lt_of_not_le
  intro hle
  rcases h with h | h
  · exact h (H.beyond t hle).1
  · exact h (H.beyond t hle).2

theorem mem_of_mem_tail_append {α : Type} {l r : List α} {x : α} (h : x ∈ (l ++ r).tail) : x ∈ l.tail ∨ x ∈ r := by
  cases l with
  | nil => exact .inr (List.mem_of_mem_tail h)
  | cons y ys => exact List.mem_append.1 h

theorem HA_of_cont {s s' : Sys} {t : Tid} {c' : List Instr} (H : HA s) (ht : t < s.n)
    (halgo : s'.algo = s.algo) (hn : s'.n = s.n)
    (hcont : ∀ u, (s'.thr u).cont = if u = t then c' else (s.thr u).cont)
    (hprog : ∀ u, u ≠ t → (s'.thr u).prog = (s.thr u).prog)
    (hfam : ∀ j ∈ c', j.isRep = true) (htf : ∀ j ∈ c'.tail, j.headOnly = false)
    (hgo : ∀ j ∈ c', ∀ a, j.getOwner = some a → a = t) : HA s' := by
  refine ⟨by rw [halgo, H.rep], ?_, ?_, ?_, ?_⟩
  · intro u j hj
    rw [hcont] at hj; split at hj
    · exact hfam j hj
    · exact H.fam u j hj
  · intro u hu
    rw [hn] at hu
    have hut : u ≠ t := fun h => Nat.lt_irrefl _ (Nat.lt_of_lt_of_le ht (h ▸ hu))
    rw [hcont, if_neg hut, hprog u hut]; exact H.beyond u hu
  · intro u j hj
    rw [hcont] at hj; split at hj
    · exact htf j hj
    · exact H.tf u j hj
  · intro u j hj a hja
    rw [hcont] at hj; split at hj
    · rename_i h; subst h; exact hgo j hj a hja
    · exact H.go u j hj a hja

/-- what `HA` and `HL` need to know about the instructions `new` that `execE` puts in the place of `i` -/
def NewOk (i : Instr) (new : List Instr) : Prop :=
  (∀ j ∈ new, j.isRep = true ∧ (∀ a, j.getOwner = some a → i.getOwner = some a) ∧
    (j.inL = true → i.touchesL = true) ∧ (j.inR = true → i.touchesR = true)) ∧
  ∀ j ∈ new.tail, j.headOnly = false

theorem deliverInstrs_props (x : Entry) (e p : Nat) :
    ∀ j ∈ deliverInstrs x e p, j.isRep = true ∧ j.headOnly = false ∧ j.getOwner = none ∧ j.isMarker = false := by
  cases x with | mk ob c => cases ob <;> simp [deliverInstrs, Instr.isRep, Instr.headOnly, Instr.getOwner, Instr.isMarker]

theorem subInstrs_props (kd : Kind) (o : Ob) :
    ∀ j ∈ subInstrs .repaired kd o, j.isRep = true ∧ j.headOnly = false ∧ j.getOwner = none := by
  cases kd <;> simp [subInstrs, Instr.isRep, Instr.headOnly, Instr.getOwner]

theorem pubInstrs_props (kd : Kind) (e : Nat) :
    ∀ j ∈ pubInstrs .repaired kd e, j.isRep = true ∧ j.headOnly = false ∧ j.getOwner = none := by
  cases kd <;> simp [pubInstrs, Instr.isRep, Instr.headOnly, Instr.getOwner]

theorem NewOk.of_plain {i : Instr} {new : List Instr}
    (hall : ∀ j ∈ new, j.isRep = true ∧ j.headOnly = false ∧ j.getOwner = none) : NewOk i new := by
  refine ⟨fun j hj => ⟨(hall j hj).1, by simp [(hall j hj).2.2], fun h => ?_, fun h => ?_⟩,
    fun j hj => (hall j (List.mem_of_mem_tail hj)).2.1⟩
  · have := headOnly_of_inL h; rw [(hall j hj).2.1] at this; cases this
  · have := headOnly_of_inR h; rw [(hall j hj).2.1] at this; cases this

/-- `NewOk` as a computation, for instructions none of which works on a latch or future of some owner -/
def newOkB (i : Instr) (new : List Instr) : Bool :=
  new.all (fun j => j.isRep && (!j.inL || i.touchesL) && (!j.inR || i.touchesR) && j.getOwner.isNone) &&
    new.tail.all (fun j => !j.headOnly)

theorem NewOk.of_check {i : Instr} {new : List Instr} (h : newOkB i new = true) : NewOk i new := by
  simp only [newOkB, Bool.and_eq_true, List.all_eq_true, Bool.or_eq_true, Bool.not_eq_true',
    Option.isNone_iff_eq_none] at h
  refine ⟨fun j hj => ?_, fun j hj => h.2 j hj⟩
  obtain ⟨⟨⟨h1, h2⟩, h3⟩, h4⟩ := h.1 j hj
  exact ⟨h1, by simp [h4], fun hl => by simpa [hl] using h2, fun hr => by simpa [hr] using h3⟩

theorem execE_new (ha : s.algo = .repaired)
    (hi : i.isRep = true) (h : execE s t i = some (s1, new)) : NewOk i new := by
  cases i <;> simp [Instr.isRep] at hi <;> simp only [execE] at h
  all_goals ((try split at h) <;> (try split at h) <;> (try simp at h))
  all_goals (try (obtain ⟨rfl, rfl⟩ := h))
  -- what is put at the head is a fixed list: evaluate; the steps of `Future::get` pass their owner on
  all_goals (try (exact .of_check rfl))
  all_goals try (
    simp [NewOk, Instr.isRep, Instr.headOnly, Instr.getOwner, Instr.inL, Instr.inR, Instr.touchesL, Instr.touchesR]
    done)
  · -- deliver with a subscribing callback
    rw [ha]; cases s.kind <;> exact .of_check rfl
  · -- relSnap: the callbacks of the snapshot
    refine .of_plain fun j hj => ?_
    rcases List.mem_append.1 hj with hj | hj
    · obtain ⟨x, _, hx⟩ := List.mem_flatMap.1 hj
      have := deliverInstrs_props x _ _ j hx; exact ⟨this.1, this.2.1, this.2.2.1⟩
    · rw [List.mem_singleton.1 hj]; exact ⟨rfl, rfl, rfl⟩
  · -- acqRead, value present
    rename_i o _ _ _ _ _
    cases o <;> exact .of_check rfl

theorem setCont_cont (s : Sys) (t u : Tid) (c : List Instr) :
    ((s.setCont t c).thr u).cont = if u = t then c else (s.thr u).cont := by
  simp [Sys.setCont_eq, upd_apply]; split <;> simp

theorem setCont_thr_other (s : Sys) (t u : Tid) (c : List Instr) (hut : u ≠ t) : (s.setCont t c).thr u = s.thr u := by
  simp [Sys.setCont_eq, hut]

theorem setCont_woken (s : Sys) (t u : Tid) (c : List Instr) : ((s.setCont t c).thr u).woken = (s.thr u).woken := by
  simp [Sys.setCont_eq, upd_apply]; split <;> simp_all

theorem exec_eq {s s' : Sys} {t : Tid} {i : Instr} {rest : List Instr} (h : exec s t i rest = some s') :
    ∃ s1 new, execE s t i = some (s1, new) ∧ s' = s1.setCont t (new ++ rest) := by
  unfold exec at h
  split at h
  · cases h
  · rename_i s1 new he; simp at h; exact ⟨s1, new, he, h.symm⟩

theorem exec_cont (he : execE s t i = some (s1, new))
    (rest : List Instr) (u : Tid) :
    ((s1.setCont t (new ++ rest)).thr u).cont = if u = t then new ++ rest else (s.thr u).cont := by
  rw [setCont_cont, (execE_thr he u).1]

theorem HA_exec {s s' : Sys} {t : Tid} {i : Instr} {rest : List Instr} (H : HA s) (ht : t < s.n)
    (hc : (s.thr t).cont = i :: rest) (h : exec s t i rest = some s') : HA s' := by
  obtain ⟨s1, new, he, rfl⟩ := exec_eq h
  have hst := execE_static he
  have N := execE_new H.rep (H.fam t i (by simp [hc])) he
  have hrest : ∀ j ∈ rest, j ∈ (s.thr t).cont := fun j hj => by simp [hc, hj]
  refine HA_of_cont H ht hst.1 hst.2.2.2 (exec_cont he rest)
    (fun u hut => by rw [setCont_thr_other _ _ _ _ hut]; exact (execE_thr he u).2.1) (fun j hj => ?_) (fun j hj => ?_)
    (fun j hj a hja => ?_)
  · rcases List.mem_append.1 hj with hj | hj
    · exact (N.1 j hj).1
    · exact H.fam t j (hrest j hj)
  · rcases mem_of_mem_tail_append hj with hj | hj
    · exact N.2 j hj
    · exact H.tf t j (by simpa [hc] using hj)
  · rcases List.mem_append.1 hj with hj | hj
    · exact H.go t i (by simp [hc]) a ((N.1 j hj).2.1 a hja)
    · exact H.go t j (hrest j hj) a hja

theorem opInstrs_props (s : Sys) (t : Tid) (op : Op) (ha : s.algo = .repaired) :
    ∀ j ∈ opInstrs s t op, j.isRep = true ∧ j.headOnly = false ∧ ∀ a, j.getOwner = some a → a = t := by
  intro j hj
  have plain : ∀ {j : Instr}, j.isRep = true ∧ j.headOnly = false ∧ j.getOwner = none →
      j.isRep = true ∧ j.headOnly = false ∧ ∀ a, j.getOwner = some a → a = t :=
    fun h => ⟨h.1, h.2.1, by simp [h.2.2]⟩
  cases op with
  | sub o =>
    simp only [opInstrs, ha] at hj
    split at hj
    · exact plain (subInstrs_props _ _ j hj)
    · simp at hj; subst hj; exact plain ⟨rfl, rfl, rfl⟩
  | pub e =>
    simp only [opInstrs, ha] at hj
    exact plain (pubInstrs_props _ _ j hj)
  | poll =>
    simp only [opInstrs, ha, List.mem_append] at hj
    rcases hj with hj | hj
    · exact plain (subInstrs_props _ _ j hj)
    · simp at hj; rcases hj with rfl | rfl <;> simp [Instr.isRep, Instr.headOnly, Instr.getOwner]
  | drop o => simp [opInstrs] at hj; subst hj; exact plain ⟨rfl, rfl, rfl⟩

theorem popMark_thr_other (s : Sys) (t u : Tid) (m : Instr) (k : List Instr) (h : u ≠ t) :
    (popMark s t m k).thr u = s.thr u := by
  cases m <;> simp [popMark, Sys.setCont_eq, h]

theorem popMark_static (s : Sys) (t : Tid) (m : Instr) (k : List Instr) :
    (popMark s t m k).algo = s.algo ∧ (popMark s t m k).kind = s.kind ∧ (popMark s t m k).behs = s.behs ∧
    (popMark s t m k).n = s.n := by
  cases m <;> simp [popMark, Sys.setCont_eq]

theorem popMark_cont_eq (s : Sys) (t : Tid) {m : Instr} (k : List Instr) (hm : m.isMarker = true) (hr : m.isRep = true)
    (u : Tid) : ((popMark s t m k).thr u).cont = if u = t then k else (s.thr u).cont := by
  by_cases h : u = t
  · subst h; simp [popMark_cont s u m k hm hr]
  · simp [popMark_thr_other s t u m k h, h]

theorem setThr_cont (s : Sys) (t : Tid) (th : Thread) (u : Tid) :
    ((s.setThr t th).thr u).cont = if u = t then th.cont else (s.thr u).cont := by
  simp [upd_apply]; split <;> rfl

theorem HA_pop {s : Sys} {t : Tid} {m : Instr} {k : List Instr} (H : HA s) (hc : (s.thr t).cont = m :: k)
    (hm : m.isMarker = true) (hr : m.isRep = true) : HA (popMark s t m k) := by
  have hst := popMark_static s t m k
  have hk : ∀ j ∈ k, j ∈ (s.thr t).cont := fun j hj => by simp [hc, hj]
  exact HA_of_cont H (H.lt_n (.inl (by simp [hc]))) hst.1 hst.2.2.2 (popMark_cont_eq s t k hm hr)
    (fun u hut => by rw [popMark_thr_other s t u m k hut]) (fun j hj => H.fam t j (hk j hj))
    (fun j hj => H.tf t j (by simpa [hc] using List.mem_of_mem_tail hj)) (fun j hj => H.go t j (hk j hj))

theorem HA_expand {s : Sys} {t : Tid} (H : HA s) : HA (expand s t) := by
  cases hp : (s.thr t).prog with
  | nil => rw [expand_nil s t hp]; exact H
  | cons op ops =>
    rw [expand_cons s t op ops hp]
    have hprops := opInstrs_props s t op H.rep
    exact HA_of_cont H (H.lt_n (.inr (by simp [hp]))) rfl rfl (setThr_cont s t _)
      (fun u hut => by simp [hut]) (fun j hj => (hprops j hj).1)
      (fun j hj => (hprops j (List.mem_of_mem_tail hj)).2.1) (fun j hj => (hprops j hj).2.2)

theorem HA_settle {s : Sys} {t : Tid} (H : HA s) (fuel : Nat) : HA (settle fuel s t) := by
  apply settle_ind HA t _ _ _ fuel s H
  · intro s m k H hc hm hr; exact HA_pop H hc hm hr
  · intro s H hc; exact HA_expand H
  · intro s m k H hc; exact H.fam t m (by simp [hc])

/-- Whoever holds a lock has an instruction at the head of its continuation that says so (for the latch and
    future mutexes also conversely); `gw` and `hw` are the latch protocol. -/
structure HL (s : Sys) : Prop where
  mR : s.lockM.readers = []  -- `M` is only ever taken exclusively
  mW : ∀ u, s.lockM.writer = some u → ∃ i, hd s u = some i ∧ i.holdsM = true
  vW : ∀ u, s.lockV.writer = some u → ∃ i, hd s u = some i ∧ i.holdsVw = true
  vR : ∀ u, u ∈ s.lockV.readers → ∃ i, hd s u = some i ∧ i.holdsVr = true
  vN : s.lockV.readers.Nodup
  lL : ∀ a k u, s.lockL a k = some u ↔ (hd s u).any (Instr.holdsL a k) = true
  lR : ∀ a k u, s.lockR a k = some u ↔ (hd s u).any (Instr.holdsR a k) = true
  gw : ∀ t a k, hd s t = some (.getWait a k) → s.lOpen a k = false  -- at `getWait` the latch is closed
  -- asleep (`getReacq`), flag set, not woken: some thread is about to notify
  hw : ∀ t a k, hd s t = some (.getReacq a k) → s.lOpen a k = true → (s.thr t).woken = false →
        ∃ u, hd s u = some (.putNotify a k)

theorem hd_setCont (s : Sys) (t u : Tid) (c : List Instr) :
    hd (s.setCont t c) u = if u = t then c.head? else hd s u := by
  unfold hd; rw [setCont_cont]; split <;> rfl

theorem headOnly_of_holdsL {a k : Nat} {i : Instr} (h : i.holdsL a k = true) : i.headOnly = true :=
  headOnly_of_inL (inL_of_holdsL h)
theorem headOnly_of_holdsR {a k : Nat} {i : Instr} (h : i.holdsR a k = true) : i.headOnly = true :=
  headOnly_of_inR (inR_of_holdsR h)

theorem head?_append_cases {new rest : List Instr} {j : Instr} (h : (new ++ rest).head? = some j) :
    j ∈ new ∨ (new = [] ∧ rest.head? = some j) := by
  cases new with
  | nil => right; exact ⟨rfl, by simpa using h⟩
  | cons x xs => left; simp at h; simp [h]

theorem HA.rest_head {s : Sys} (A : HA s) {t : Tid} {i j : Instr} {rest : List Instr} (hc : (s.thr t).cont = i :: rest)
    (hj : rest.head? = some j) : j.headOnly = false :=
  A.tf t j (by simp [hc]; exact List.mem_of_mem_head? hj)

theorem HA.rest_head_any {s : Sys} (A : HA s) {t : Tid} {i : Instr} {rest : List Instr} (hc : (s.thr t).cont = i :: rest)
    {P : Instr → Bool} (hP : ∀ j, P j = true → j.headOnly = true) : (rest.head?).any P = false := by
  cases hr : rest.head? with
  | none => rfl
  | some j =>
    cases hp : P j with
    | false => simp [hp]
    | true => have := A.rest_head hc hr; rw [hP j hp] at this; cases this

theorem head?_append_any {new rest : List Instr} {P : Instr → Bool} (hr : (rest.head?).any P = false) :
    ((new ++ rest).head?).any P = (new.head?).any P := by
  cases new with
  | nil => simpa using hr
  | cons x xs => rfl

theorem exec_hd (he : execE s t i = some (s1, new))
    (rest : List Instr) (u : Tid) :
    hd (s1.setCont t (new ++ rest)) u = if u = t then (new ++ rest).head? else hd s u := by
  unfold hd; rw [exec_cont he]; split <;> rfl

/-- A mutex `w` whose holder is the thread with `P` at the head of its continuation, across a step of
    thread `t` that leaves it alone (and `P` at its head as it was), acquires it, or releases it. -/
theorem mutex_step {w w' : Option Tid} {h h' : Tid → Option Instr} {P : Instr → Bool} {t : Tid}
    (inv : ∀ u, w = some u ↔ (h u).any P = true) (hoth : ∀ u, u ≠ t → h' u = h u)
    (hstep : (w' = w ∧ (h' t).any P = (h t).any P) ∨ (w = none ∧ w' = some t ∧ (h' t).any P = true) ∨
      ((h t).any P = true ∧ w' = none ∧ (h' t).any P = false)) :
    ∀ u, w' = some u ↔ (h' u).any P = true := by
  intro u
  by_cases hut : u = t
  · subst hut
    rcases hstep with ⟨h1, h2⟩ | ⟨_, h1, h2⟩ | ⟨_, h1, h2⟩
    · rw [h1, h2]; exact inv u
    · simp [h1, h2]
    · simp [h1, h2]
  · have htu : t ≠ u := fun h => hut h.symm
    rw [hoth u hut, ← inv u]
    rcases hstep with ⟨h1, _⟩ | ⟨h0, h1, _⟩ | ⟨h0, h1, _⟩
    · rw [h1]
    · simp [h0, h1, htu]
    · simp [(inv t).2 h0, h1, htu]

theorem headOnly_of_holdsM {i : Instr} (h : i.holdsM = true) : i.headOnly = true := by
  cases i <;> first | rfl | cases h
theorem headOnly_of_holdsVr {i : Instr} (h : i.holdsVr = true) : i.headOnly = true := by
  cases i <;> first | rfl | cases h
theorem headOnly_of_holdsVw {i : Instr} (h : i.holdsVw = true) : i.headOnly = true := by
  cases i <;> first | rfl | cases h

/-- The same for a reader/writer lock, with `Pw` (writer) and `Pr` (a reader): the step leaves the lock alone,
    acquires it exclusively or shared, or releases the one kind of hold it has. -/
theorem rw_step {l l' : RW} {h h' : Tid → Option Instr} {Pw Pr : Instr → Bool} {t : Tid}
    (W : ∀ u, l.writer = some u → (h u).any Pw = true) (R : ∀ u ∈ l.readers, (h u).any Pr = true) (N : l.readers.Nodup)
    (hoth : ∀ u, u ≠ t → h' u = h u)
    (hstep :
      (l' = l ∧ ((h t).any Pw = true → (h' t).any Pw = true) ∧ ((h t).any Pr = true → (h' t).any Pr = true)) ∨
      (l.free = true ∧ l' = l.lockW t ∧ (h' t).any Pw = true) ∨
      (l.canRead = true ∧ (h t).any Pr = false ∧ l' = l.lockR t ∧ (h' t).any Pr = true) ∨
      (l' = l.unlock t ∧ ((h t).any Pw = false ∨ (h t).any Pr = false))) :
    (∀ u, l'.writer = some u → (h' u).any Pw = true) ∧ (∀ u ∈ l'.readers, (h' u).any Pr = true) ∧ l'.readers.Nodup := by
  have keepW : ∀ u, u ≠ t → l.writer = some u → (h' u).any Pw = true := fun u hut hu => by rw [hoth u hut]; exact W u hu
  have keepR : ∀ u, u ≠ t → u ∈ l.readers → (h' u).any Pr = true := fun u hut hu => by rw [hoth u hut]; exact R u hu
  have neW : (h t).any Pw = false → ∀ u, l.writer = some u → u ≠ t := fun hf u hu hut => by
    rw [← hut, W u hu] at hf; cases hf
  have neR : (h t).any Pr = false → ∀ u ∈ l.readers, u ≠ t := fun hf u hu hut => by
    rw [← hut, R u hu] at hf; cases hf
  rcases hstep with ⟨rfl, hw, hr⟩ | ⟨hfree, rfl, hw⟩ | ⟨hcan, hr0, rfl, hr⟩ | ⟨rfl, hf | hf⟩
  · refine ⟨fun u hu => ?_, fun u hu => ?_, N⟩
    · by_cases hut : u = t
      · subst hut; exact hw (W u hu)
      · exact keepW u hut hu
    · by_cases hut : u = t
      · subst hut; exact hr (R u hu)
      · exact keepR u hut hu
  · have hl : l.writer = none ∧ l.readers = [] := by simpa [RW.free] using hfree
    refine ⟨fun u hu => ?_, fun u hu => ?_, N⟩
    · have : t = u := by simpa [RW.lockW] using hu
      rw [← this]; exact hw
    · simp [RW.lockW, hl.2] at hu
  · have hl : l.writer = none := by simpa [RW.canRead] using hcan
    refine ⟨fun u hu => ?_, fun u hu => ?_, List.nodup_cons.2 ⟨fun hin => neR hr0 t hin rfl, N⟩⟩
    · simp [RW.lockR, hl] at hu
    · rcases List.mem_cons.1 hu with rfl | hu
      · exact hr
      · exact keepR u (neR hr0 u hu) hu
  · -- `t` is not the writer: it gives up a shared hold
    have hw : ¬ l.writer = some t := fun h => neW hf t h rfl
    simp only [RW.unlock, if_neg hw]
    refine ⟨fun u hu => keepW u (neW hf u hu) hu, fun u hu => ?_, N.erase t⟩
    have := (List.Nodup.mem_erase_iff N).1 hu
    exact keepR u this.1 this.2
  · -- `t` is not a reader: it gives up the exclusive hold, if it has it
    have ht : t ∉ l.readers := fun hin => neR hf t hin rfl
    unfold RW.unlock
    split
    · exact ⟨fun u hu => by simp at hu, fun u hu => keepR u (neR hf u hu) hu, N⟩
    · rename_i hw
      simp only [List.erase_of_not_mem ht]
      exact ⟨fun u hu => keepW u (fun hut => hw (hut ▸ hu)) hu, fun u hu => keepR u (neR hf u hu) hu, N⟩

/-- how an instruction acts on the mutex `M` and on the value lock `V`: the cases of `rw_step` for each -/
theorem execE_lockMV (hi : i.isRep = true) (he : execE s t i = some (s1, new)) :
    ((s1.lockM = s.lockM ∧ i.holdsM = false) ∨
      (s.lockM.free = true ∧ s1.lockM = s.lockM.lockW t ∧ (new.head?).any Instr.holdsM = true) ∨
      s1.lockM = s.lockM.unlock t) ∧
    ((s1.lockV = s.lockV ∧ i.holdsVw = false ∧ (i.holdsVr = true → (new.head?).any Instr.holdsVr = true)) ∨
      (s.lockV.free = true ∧ s1.lockV = s.lockV.lockW t ∧ (new.head?).any Instr.holdsVw = true) ∨
      (s.lockV.canRead = true ∧ i.holdsVr = false ∧ s1.lockV = s.lockV.lockR t ∧
        (new.head?).any Instr.holdsVr = true) ∨
      (s1.lockV = s.lockV.unlock t ∧ (i.holdsVw = false ∨ i.holdsVr = false))) := by
  cases i <;> simp [Instr.isRep] at hi <;> simp only [execE] at he
  all_goals ((try split at he) <;> (try split at he) <;> (try simp at he))
  all_goals (try (obtain ⟨rfl, rfl⟩ := he))
  all_goals (try (exact ⟨.inl ⟨rfl, rfl⟩, .inl ⟨rfl, rfl, nofun⟩⟩))
  -- left: the `acq…` and `rel…` instructions, each of which takes or gives up `M` or `V`
  all_goals simp_all [Instr.holdsM, Instr.holdsVw, Instr.holdsVr]

theorem touchesL_shape {i : Instr} (h : i.touchesL = true) : ∃ a0 k0, i = .getLockL a0 k0 ∨ i = .getWait a0 k0 ∨
    i = .getReacq a0 k0 ∨ i = .getUnlockL a0 k0 ∨ i = .putLockL a0 k0 ∨ i = .putNotify a0 k0 ∨ i = .putUnlockL a0 k0 := by
  cases i with
  | getLockL a k => exact ⟨a, k, .inl rfl⟩
  | getWait a k => exact ⟨a, k, .inr (.inl rfl)⟩
  | getReacq a k => exact ⟨a, k, .inr (.inr (.inl rfl))⟩
  | getUnlockL a k => exact ⟨a, k, .inr (.inr (.inr (.inl rfl)))⟩
  | putLockL a k => exact ⟨a, k, .inr (.inr (.inr (.inr (.inl rfl))))⟩
  | putNotify a k => exact ⟨a, k, .inr (.inr (.inr (.inr (.inr (.inl rfl)))))⟩
  | putUnlockL a k => exact ⟨a, k, .inr (.inr (.inr (.inr (.inr (.inr rfl)))))⟩
  | _ => simp [Instr.touchesL] at h

theorem touchesR_shape {i : Instr} (h : i.touchesR = true) : ∃ a0 k0, i = .getLockR a0 k0 ∨ i = .getUnlockR a0 k0 ∨
    (∃ c e p, i = .putLockR a0 k0 c e p) ∨ i = .putLockL a0 k0 ∨ i = .putNotify a0 k0 ∨ i = .putUnlockL a0 k0 ∨
    i = .putUnlockR a0 k0 := by
  cases i with
  | getLockR a k => exact ⟨a, k, .inl rfl⟩
  | getUnlockR a k => exact ⟨a, k, .inr (.inl rfl)⟩
  | putLockR a k c e p => exact ⟨a, k, .inr (.inr (.inl ⟨c, e, p, rfl⟩))⟩
  | putLockL a k => exact ⟨a, k, .inr (.inr (.inr (.inl rfl)))⟩
  | putNotify a k => exact ⟨a, k, .inr (.inr (.inr (.inr (.inl rfl))))⟩
  | putUnlockL a k => exact ⟨a, k, .inr (.inr (.inr (.inr (.inr (.inl rfl)))))⟩
  | putUnlockR a k => exact ⟨a, k, .inr (.inr (.inr (.inr (.inr (.inr rfl)))))⟩
  | _ => simp [Instr.touchesR] at h

theorem touchesL_of_inL {i : Instr} (h : i.inL = true) : i.touchesL = true := by
  cases i <;> first | rfl | cases h
theorem touchesR_of_inR {i : Instr} (h : i.inR = true) : i.touchesR = true := by
  cases i <;> first | rfl | cases h

theorem NewOk.head_not_inL {i : Instr} {new : List Instr} (N : NewOk i new) (hT : i.touchesL = false) {P : Instr → Bool}
    (hP : ∀ j, P j = true → j.inL = true) : (new.head?).any P = false := by
  cases hn : new.head? with
  | none => rfl
  | some j =>
    cases hp : P j with
    | false => simp [hp]
    | true => rw [(N.1 j (List.mem_of_mem_head? hn)).2.2.1 (hP j hp)] at hT; cases hT

theorem NewOk.head_not_inR {i : Instr} {new : List Instr} (N : NewOk i new) (hT : i.touchesR = false) {P : Instr → Bool}
    (hP : ∀ j, P j = true → j.inR = true) : (new.head?).any P = false := by
  cases hn : new.head? with
  | none => rfl
  | some j =>
    cases hp : P j with
    | false => simp [hp]
    | true => rw [(N.1 j (List.mem_of_mem_head? hn)).2.2.2 (hP j hp)] at hT; cases hT

/-- how an instruction acts on the mutex of latch `(a, k)`: the three cases of `mutex_step` -/
theorem execE_lockL (ha : s.algo = .repaired) (hi : i.isRep = true)
    (he : execE s t i = some (s1, new)) (a k : Nat) :
    (s1.lockL a k = s.lockL a k ∧ (new.head?).any (Instr.holdsL a k) = i.holdsL a k) ∨
    (s.lockL a k = none ∧ s1.lockL a k = some t ∧ (new.head?).any (Instr.holdsL a k) = true) ∨
    (i.holdsL a k = true ∧ s1.lockL a k = none ∧ (new.head?).any (Instr.holdsL a k) = false) := by
  by_cases hT : i.touchesL = true
  · obtain ⟨a0, k0, hshape⟩ := touchesL_shape hT
    rcases hshape with rfl | rfl | rfl | rfl | rfl | rfl | rfl <;> simp only [execE] at he
    all_goals ((try split at he) <;> (try split at he) <;> (try simp at he))
    all_goals (try (obtain ⟨rfl, rfl⟩ := he))
    all_goals (
      by_cases hak : a = a0 ∧ k = k0
      · obtain ⟨rfl, rfl⟩ := hak; simp_all [Instr.holdsL]
      · have hak' : ¬(a0 = a ∧ k0 = k) := fun h => hak ⟨h.1.symm, h.2.symm⟩
        simp_all [upd2_apply, Instr.holdsL])
  · have hT' : i.touchesL = false := by simpa using hT
    have hold : i.holdsL a k = false := Bool.eq_false_iff.2 fun hh => by
      rw [touchesL_of_inL (inL_of_holdsL hh)] at hT'; cases hT'
    exact .inl ⟨by rw [((execE_frame he).2.2.1 hT').1], by
      rw [hold]; exact (execE_new ha hi he).head_not_inL hT' fun _ => inL_of_holdsL⟩

theorem execE_lockR (ha : s.algo = .repaired) (hi : i.isRep = true)
    (he : execE s t i = some (s1, new)) (a k : Nat) :
    (s1.lockR a k = s.lockR a k ∧ (new.head?).any (Instr.holdsR a k) = i.holdsR a k) ∨
    (s.lockR a k = none ∧ s1.lockR a k = some t ∧ (new.head?).any (Instr.holdsR a k) = true) ∨
    (i.holdsR a k = true ∧ s1.lockR a k = none ∧ (new.head?).any (Instr.holdsR a k) = false) := by
  by_cases hT : i.touchesR = true
  · obtain ⟨a0, k0, hshape⟩ := touchesR_shape hT
    rcases hshape with rfl | rfl | ⟨c, e, p, rfl⟩ | rfl | rfl | rfl | rfl <;> simp only [execE] at he
    all_goals ((try split at he) <;> (try split at he) <;> (try simp at he))
    all_goals (try (obtain ⟨rfl, rfl⟩ := he))
    all_goals (
      by_cases hak : a = a0 ∧ k = k0
      · obtain ⟨rfl, rfl⟩ := hak; simp_all [Instr.holdsR]
      · have hak' : ¬(a0 = a ∧ k0 = k) := fun h => hak ⟨h.1.symm, h.2.symm⟩
        simp_all [upd2_apply, Instr.holdsR])
  · have hT' : i.touchesR = false := by simpa using hT
    have hold : i.holdsR a k = false := Bool.eq_false_iff.2 fun hh => by
      rw [touchesR_of_inR (inR_of_holdsR hh)] at hT'; cases hT'
    exact .inl ⟨by rw [(execE_frame he).2.2.2 hT'], by
      rw [hold]; exact (execE_new ha hi he).head_not_inR hT' fun _ => inR_of_holdsR⟩

theorem hd_some_any {s : Sys} {u : Tid} {j : Instr} {P : Instr → Bool} (h : hd s u = some j) (hp : P j = true) :
    (hd s u).any P = true := by rw [h]; simpa using hp

/-! The latch flag and the `woken` bits: only `putLockL` (under the latch mutex) sets a flag, only the thread
itself clears its `woken` bit, and what `execE` puts at the head is a wait state only after `getLockL`,
`getWait`, `getReacq`. -/

theorem execE_lOpen (he : execE s t i = some (s1, new)) (a k : Nat) :
    s1.lOpen a k = s.lOpen a k ∨ (i = .putLockL a k ∧ s.lockL a k = none) := by
  by_cases hT : i.touchesL = true
  · obtain ⟨a0, k0, hshape⟩ := touchesL_shape hT
    rcases hshape with rfl | rfl | rfl | rfl | rfl | rfl | rfl <;> simp only [execE] at he
    all_goals ((try split at he) <;> (try split at he) <;> (try simp at he))
    all_goals (try (obtain ⟨rfl, rfl⟩ := he))
    all_goals (try (exact .inl rfl))
    · -- `putLockL`
      rename_i hfree
      by_cases hak : a = a0 ∧ k = k0
      · obtain ⟨rfl, rfl⟩ := hak; exact .inr ⟨rfl, Option.isNone_iff_eq_none.1 hfree⟩
      · exact .inl (by simp [upd2_apply, hak])
  · rw [((execE_frame he).2.2.1 (by simpa using hT)).2.1]; exact .inl rfl

theorem execE_woken_other {s s1 : Sys} {t u : Tid} {i : Instr} {new : List Instr}
    (he : execE s t i = some (s1, new)) (hut : u ≠ t) (hw : (s1.thr u).woken = false) : (s.thr u).woken = false := by
  by_cases hT : i.touchesL = true
  · obtain ⟨a0, k0, hshape⟩ := touchesL_shape hT
    rcases hshape with rfl | rfl | rfl | rfl | rfl | rfl | rfl <;> simp only [execE] at he
    all_goals ((try split at he) <;> (try split at he) <;> (try simp at he))
    all_goals (try (obtain ⟨rfl, rfl⟩ := he))
    all_goals (try (exact hw))
    all_goals (try (simpa [upd_apply, hut] using hw))
    · by_cases hua : u = a0
      · subst hua; simp at hw
      · simpa [upd_apply, hua] using hw
  · rw [← ((execE_frame he).2.2.1 (by simpa using hT)).2.2 u]; exact hw

theorem execE_new_wait (ha : s.algo = .repaired)
    (hi : i.isRep = true) (he : execE s t i = some (s1, new)) {j : Instr} (hj : j ∈ new) (a k : Nat) :
    (j = .getWait a k → s1.lOpen a k = false) ∧ (j = .getReacq a k → i = .getWait a k) := by
  by_cases hT : i.touchesL = true
  · obtain ⟨a0, k0, hshape⟩ := touchesL_shape hT
    rcases hshape with rfl | rfl | rfl | rfl | rfl | rfl | rfl <;> simp only [execE] at he
    all_goals ((try split at he) <;> (try split at he) <;> (try simp at he))
    all_goals (try (obtain ⟨rfl, rfl⟩ := he))
    all_goals (simp at hj; subst hj)
    all_goals (try split)
    all_goals simp_all
    all_goals (rintro rfl rfl; assumption)
  · refine ⟨fun h => ?_, fun h => ?_⟩ <;>
    · have := ((execE_new ha hi he).1 j hj).2.2.1 (by rw [h]; rfl)
      rw [this] at hT; exact absurd rfl hT

end

section
variable {s s' : Sys} {t : Tid} {i : Instr} {rest : List Instr} (A : HA s) (H : HL s)
  (hc : (s.thr t).cont = i :: rest) (h : exec s t i rest = some s')
include A H hc h

theorem HL_exec_M :
    s'.lockM.readers = [] ∧ ∀ u, s'.lockM.writer = some u → ∃ j, hd s' u = some j ∧ j.holdsM = true := by
  obtain ⟨s1, new, he, rfl⟩ := exec_eq h
  have hnew := head?_append_any (new := new) (A.rest_head_any hc fun _ => headOnly_of_holdsM)
  have hdt : hd s t = some i := by simp [hd, hc]
  obtain ⟨hw, hr, -⟩ := rw_step (Pw := Instr.holdsM) (Pr := fun _ => false) (l' := s1.lockM) (h := hd s)
    (h' := hd (s1.setCont t (new ++ rest))) (fun u hu => (Option.any_eq_true _ _).2 (H.mW u hu))
    (by simp [H.mR]) (by simp [H.mR]) (fun u hut => by rw [exec_hd he, if_neg hut]) (by
      rw [exec_hd he, if_pos rfl, hnew, hdt]
      rcases (execE_lockMV (A.fam t i (by simp [hc])) he).1 with ⟨h1, h2⟩ | ⟨h1, h2, h3⟩ | h1
      · exact .inl ⟨h1, by simp [h2], by simp⟩
      · exact .inr (.inl ⟨h1, h2, h3⟩)
      · exact .inr (.inr (.inr ⟨h1, .inr rfl⟩)))
  refine ⟨List.eq_nil_iff_forall_not_mem.2 fun u hu => ?_, fun u hu => (Option.any_eq_true _ _).1 (hw u hu)⟩
  have := hr u hu
  simp at this

theorem HL_exec_V :
    (∀ u, s'.lockV.writer = some u → ∃ j, hd s' u = some j ∧ j.holdsVw = true) ∧
    (∀ u, u ∈ s'.lockV.readers → ∃ j, hd s' u = some j ∧ j.holdsVr = true) ∧ s'.lockV.readers.Nodup := by
  obtain ⟨s1, new, he, rfl⟩ := exec_eq h
  have hnewW := head?_append_any (new := new) (A.rest_head_any hc fun _ => headOnly_of_holdsVw)
  have hnewR := head?_append_any (new := new) (A.rest_head_any hc fun _ => headOnly_of_holdsVr)
  have hdt : hd s t = some i := by simp [hd, hc]
  simp only [← Option.any_eq_true]
  refine rw_step (l' := s1.lockV) (h := hd s) (fun u hu => (Option.any_eq_true _ _).2 (H.vW u hu))
    (fun u hu => (Option.any_eq_true _ _).2 (H.vR u hu)) H.vN (fun u hut => by rw [exec_hd he, if_neg hut]) ?_
  rw [exec_hd he, if_pos rfl, hnewW, hnewR, hdt]
  rcases (execE_lockMV (A.fam t i (by simp [hc])) he).2 with ⟨h1, h2, h3⟩ | h1 | ⟨h1, h2, h3⟩ | ⟨h1, h2⟩
  · exact .inl ⟨h1, by simp [h2], by simpa using h3⟩
  · exact .inr (.inl h1)
  · exact .inr (.inr (.inl ⟨h1, by simpa using h2, h3⟩))
  · exact .inr (.inr (.inr ⟨h1, by simpa using h2⟩))

theorem HL_exec_L :
    ∀ a k u, s'.lockL a k = some u ↔ (hd s' u).any (Instr.holdsL a k) = true := by
  obtain ⟨s1, new, he, rfl⟩ := exec_eq h
  intro a k
  refine mutex_step (h := hd s) (H.lL a k) (fun u hut => by rw [exec_hd he, if_neg hut]) ?_
  rw [exec_hd he, if_pos rfl, head?_append_any (A.rest_head_any hc fun _ => headOnly_of_holdsL)]
  simp only [hd, hc, List.head?_cons, Option.any_some]
  exact execE_lockL A.rep (A.fam t i (by simp [hc])) he a k

theorem HL_exec_R :
    ∀ a k u, s'.lockR a k = some u ↔ (hd s' u).any (Instr.holdsR a k) = true := by
  obtain ⟨s1, new, he, rfl⟩ := exec_eq h
  intro a k
  refine mutex_step (h := hd s) (H.lR a k) (fun u hut => by rw [exec_hd he, if_neg hut]) ?_
  rw [exec_hd he, if_pos rfl, head?_append_any (A.rest_head_any hc fun _ => headOnly_of_holdsR)]
  simp only [hd, hc, List.head?_cons, Option.any_some]
  exact execE_lockR A.rep (A.fam t i (by simp [hc])) he a k

theorem HL_exec_gw :
    ∀ u a k, hd s' u = some (.getWait a k) → s'.lOpen a k = false := by
  obtain ⟨s1, new, he, rfl⟩ := exec_eq h
  have hi : i.isRep = true := A.fam t i (by simp [hc])
  intro u a k hu
  rw [exec_hd he] at hu
  show s1.lOpen a k = false
  split at hu
  · rcases head?_append_cases hu with hj | ⟨_, hj⟩
    · exact (execE_new_wait A.rep hi he hj a k).1 rfl
    · cases A.rest_head hc hj
  · rcases execE_lOpen he a k with h1 | ⟨_, h1⟩
    · rw [h1]; exact H.gw u a k hu
    · rw [(H.lL a k u).2 (hd_some_any hu (by simp [Instr.holdsL]))] at h1; cases h1

theorem HL_exec_hw :
    ∀ u a k, hd s' u = some (.getReacq a k) → s'.lOpen a k = true → (s'.thr u).woken = false →
      ∃ w, hd s' w = some (.putNotify a k) := by
  obtain ⟨s1, new, he, rfl⟩ := exec_eq h
  have hi : i.isRep = true := A.fam t i (by simp [hc])
  have hdt : hd s t = some i := by simp [hd, hc]
  intro u a k hu hopen hwok
  rw [exec_hd he] at hu
  rw [setCont_woken] at hwok
  change s1.lOpen a k = true at hopen
  split at hu
  · -- the acting thread goes to sleep only after `getWait`, with the flag clear
    exfalso
    rcases head?_append_cases hu with hj | ⟨_, hj⟩
    · have hiw := (execE_new_wait A.rep hi he hj a k).2 rfl
      rcases execE_lOpen he a k with h1 | ⟨h1, _⟩
      · rw [h1, H.gw t a k (hiw ▸ hdt)] at hopen; cases hopen
      · rw [hiw] at h1; cases h1
    · cases A.rest_head hc hj
  · rename_i hut
    have hua : a = u := A.go u _ (List.mem_of_mem_head? hu) a rfl
    rcases execE_lOpen he a k with h1 | ⟨rfl, _⟩
    · obtain ⟨w, hw⟩ := H.hw u a k hu (h1 ▸ hopen) (execE_woken_other he hut hwok)
      by_cases hwt : w = t
      · -- `t` is the notifier: it has just woken `u`
        exfalso
        rw [hwt, hdt] at hw; cases hw
        simp only [execE, Option.some.injEq, Prod.mk.injEq] at he
        obtain ⟨rfl, rfl⟩ := he
        subst hua
        rw [if_pos (show (s.thr a).cont.head? = _ from hu)] at hwok
        simp at hwok
      · exact ⟨w, by rw [exec_hd he, if_neg hwt]; exact hw⟩
    · -- `t` has just set the flag and notifies next
      simp only [execE] at he
      split at he
      · cases he; exact ⟨t, by rw [hd_setCont, if_pos rfl]; rfl⟩
      · cases he

end

theorem HL_exec {s s' : Sys} {t : Tid} {i : Instr} {rest : List Instr} (A : HA s) (H : HL s)
    (hc : (s.thr t).cont = i :: rest) (h : exec s t i rest = some s') : HL s' := by
  have hM := HL_exec_M A H hc h
  have hV := HL_exec_V A H hc h
  exact ⟨hM.1, hM.2, hV.1, hV.2.1, hV.2.2, HL_exec_L A H hc h, HL_exec_R A H hc h,
    HL_exec_gw A H hc h, HL_exec_hw A H hc h⟩

/-- `HL` looks at the state through the locks, the latch flags, the `woken` bits and the heads of the
    continuations.  It survives a change that keeps locks and flags, clears no `woken` bit, and changes heads
    only from and to instructions that are not head-only. -/
theorem HL_of_heads {s s' : Sys} (H : HL s)
    (hM : s'.lockM = s.lockM) (hV : s'.lockV = s.lockV) (hL : s'.lockL = s.lockL) (hR : s'.lockR = s.lockR)
    (hO : s'.lOpen = s.lOpen) (hwk : ∀ u, (s'.thr u).woken = false → (s.thr u).woken = false)
    (hhd : ∀ u, hd s' u = hd s u ∨
      ((∀ j, hd s u = some j → j.headOnly = false) ∧ ∀ j, hd s' u = some j → j.headOnly = false)) : HL s' := by
  have eqv : ∀ u j, j.headOnly = true → (hd s' u = some j ↔ hd s u = some j) := by
    intro u j hj
    rcases hhd u with h | ⟨h1, h2⟩
    · rw [h]
    · exact ⟨fun h => (by rw [h2 j h] at hj; cases hj), fun h => (by rw [h1 j h] at hj; cases hj)⟩
  have exEq : ∀ {P : Instr → Bool}, (∀ j, P j = true → j.headOnly = true) → ∀ u,
      (∃ j, hd s' u = some j ∧ P j = true) ↔ ∃ j, hd s u = some j ∧ P j = true := fun hP u =>
    ⟨fun ⟨j, h, hp⟩ => ⟨j, (eqv u j (hP j hp)).1 h, hp⟩, fun ⟨j, h, hp⟩ => ⟨j, (eqv u j (hP j hp)).2 h, hp⟩⟩
  refine ⟨by rw [hM]; exact H.mR, ?_, ?_, ?_, by rw [hV]; exact H.vN, ?_, ?_, ?_, ?_⟩
  · intro u hu; rw [hM] at hu; exact (exEq (fun _ => headOnly_of_holdsM) u).2 (H.mW u hu)
  · intro u hu; rw [hV] at hu; exact (exEq (fun _ => headOnly_of_holdsVw) u).2 (H.vW u hu)
  · intro u hu; rw [hV] at hu; exact (exEq (fun _ => headOnly_of_holdsVr) u).2 (H.vR u hu)
  · intro a k u; rw [hL, Option.any_eq_true, exEq (fun _ => headOnly_of_holdsL), ← Option.any_eq_true]; exact H.lL a k u
  · intro a k u; rw [hR, Option.any_eq_true, exEq (fun _ => headOnly_of_holdsR), ← Option.any_eq_true]; exact H.lR a k u
  · intro u a k hu; rw [hO]; exact H.gw u a k ((eqv u _ rfl).1 hu)
  · intro u a k hu hopen hwok
    rw [hO] at hopen
    obtain ⟨w, hw⟩ := H.hw u a k ((eqv u _ rfl).1 hu) hopen (hwk u hwok)
    exact ⟨w, (eqv w _ rfl).2 hw⟩

theorem popMark_frame (s : Sys) (t : Tid) (m : Instr) (k : List Instr) :
    (popMark s t m k).lockM = s.lockM ∧ (popMark s t m k).lockV = s.lockV ∧ (popMark s t m k).lockL = s.lockL ∧
    (popMark s t m k).lockR = s.lockR ∧ (popMark s t m k).lOpen = s.lOpen ∧
    ((popMark s t m k).thr t).woken = (s.thr t).woken := by
  cases m <;> simp [popMark, Sys.setCont_eq]

theorem headOnly_of_isMarker {i : Instr} (h : i.isMarker = true) : i.headOnly = false := by
  cases i <;> simp_all [Instr.isMarker, Instr.headOnly]

theorem HL_pop {s : Sys} {t : Tid} {m : Instr} {k : List Instr} (A : HA s) (H : HL s) (hc : (s.thr t).cont = m :: k)
    (hm : m.isMarker = true) (hr : m.isRep = true) : HL (popMark s t m k) := by
  obtain ⟨f1, f2, f3, f4, f5, f6⟩ := popMark_frame s t m k
  refine HL_of_heads H f1 f2 f3 f4 f5 (fun u hw => ?_) (fun u => ?_) <;> by_cases hut : u = t
  · rw [hut] at hw ⊢; rwa [f6] at hw
  · rwa [popMark_thr_other s t u m k hut] at hw
  · right
    rw [hut]; simp only [hd, popMark_cont s t m k hm hr, hc, List.head?_cons, Option.some.injEq]
    exact ⟨fun j hj => hj ▸ headOnly_of_isMarker hm, fun j hj => A.rest_head hc hj⟩
  · left; unfold hd; rw [popMark_thr_other s t u m k hut]

theorem HL_expand {s : Sys} {t : Tid} (A : HA s) (H : HL s) (hc : (s.thr t).cont = []) : HL (expand s t) := by
  cases hp : (s.thr t).prog with
  | nil => rw [expand_nil s t hp]; exact H
  | cons op ops =>
    rw [expand_cons s t op ops hp]
    refine HL_of_heads H rfl rfl rfl rfl rfl (fun u hw => ?_) (fun u => ?_) <;> by_cases hut : u = t
    · rw [hut] at hw ⊢; simpa using hw
    · simpa [upd_apply, hut] using hw
    · right
      rw [hut]; simp only [hd, hc, Sys.setThr_thr, upd_same]
      exact ⟨nofun, fun j hj => (opInstrs_props s t op A.rep j (List.mem_of_mem_head? hj)).2.1⟩
    · left; simp [hd, hut]

/-- the invariant of the repaired algorithm that every `exec`, marker pop, `expand` and spurious wake-up keeps -/
structure Good (s : Sys) : Prop where
  a : HA s
  l : HL s

theorem Good_settle {s : Sys} {t : Tid} (G : Good s) (fuel : Nat) : Good (settle fuel s t) := by
  apply settle_ind Good t _ _ _ fuel s G
  · intro s m k G hc hm hr; exact ⟨HA_pop G.a hc hm hr, HL_pop G.a G.l hc hm hr⟩
  · intro s G hc; exact ⟨HA_expand G.a, HL_expand G.a G.l hc⟩
  · intro s m k G hc; exact G.a.fam t m (by simp [hc])

theorem step_eq {s s' : Sys} {t : Tid} (h : step s t = some s') :
    t < s.n ∧ ∃ i rest s1, (s.thr t).cont = i :: rest ∧ exec s t i rest = some s1 ∧ s' = settle (settleFuel s1 t) s1 t := by
  unfold step at h
  split at h
  · rename_i ht
    refine ⟨ht, ?_⟩
    split at h
    · cases h
    · rename_i i rest hc
      split at h
      · cases h
      · rename_i s1 he; simp at h; exact ⟨i, rest, s1, hc, he, h.symm⟩
  · cases h

theorem Good_step {s s' : Sys} {t : Tid} (G : Good s) (h : step s t = some s') : Good s' := by
  obtain ⟨ht, i, rest, s1, hc, he, rfl⟩ := step_eq h
  exact Good_settle ⟨HA_exec G.a ht hc he, HL_exec G.a G.l hc he⟩ _

theorem spur_eq {s s' : Sys} {t : Tid} (h : spur s t = some s') :
    ∃ a k rest, (s.thr t).cont = .getReacq a k :: rest ∧ s' = s.setThr t { s.thr t with woken := true } := by
  unfold spur at h
  split at h
  · split at h
    · rename_i a k rest hc; simp at h; exact ⟨a, k, rest, hc, by rw [← h]; congr 1; simp [hc]⟩
    · cases h
  · cases h

theorem setThr_woken (s : Sys) (t u : Tid) (b : Bool) :
    ((s.setThr t { s.thr t with woken := b }).thr u).cont = (s.thr u).cont ∧
    ((s.setThr t { s.thr t with woken := b }).thr u).prog = (s.thr u).prog := by
  simp [upd_apply]; split <;> simp_all

theorem Good_spur {s s' : Sys} {t : Tid} (G : Good s) (h : spur s t = some s') : Good s' := by
  obtain ⟨a, k, rest, hc, rfl⟩ := spur_eq h
  have hcont := fun u => (setThr_woken s t u true).1
  have hprog := fun u => (setThr_woken s t u true).2
  have hhd : ∀ u, hd (s.setThr t { s.thr t with woken := true }) u = hd s u := fun u => by unfold hd; rw [hcont]
  constructor
  · exact ⟨G.a.rep, fun u => by rw [hcont]; exact G.a.fam u, fun u hu => by rw [hcont, hprog]; exact G.a.beyond u hu,
      fun u => by rw [hcont]; exact G.a.tf u, fun u => by rw [hcont]; exact G.a.go u⟩
  · refine HL_of_heads G.l rfl rfl rfl rfl rfl (fun u hw => ?_) (fun u => .inl (hhd u))
    by_cases hut : u = t
    · subst hut; simp at hw
    · simpa [upd_apply, hut] using hw

def AllSettled (s : Sys) : Prop := ∀ t, SettledAt s t

theorem expand_thr_other (s : Sys) (t u : Tid) (hut : u ≠ t) : (expand s t).thr u = s.thr u := by
  cases hp : (s.thr t).prog with
  | nil => rw [expand_nil s t hp]
  | cons op ops => rw [expand_cons s t op ops hp]; simp [hut]

theorem settle_other (t u : Tid) (hut : u ≠ t) : ∀ fuel (s : Sys), (settle fuel s t).thr u = s.thr u := by
  intro fuel
  induction fuel with
  | zero => intro s; rfl
  | succ f ih =>
    intro s
    unfold settle
    split
    · exact expand_thr_other s t u hut
    · rw [ih, setCont_thr_other _ _ _ _ hut]; rfl
    · rw [ih, setCont_thr_other _ _ _ _ hut]
    · rw [ih, setCont_thr_other _ _ _ _ hut]; rfl
    · rw [ih, setCont_thr_other _ _ _ _ hut]; rfl
    · simp only []
      split <;> rw [setCont_thr_other _ _ _ _ hut, setCont_thr_other _ _ _ _ hut]
    · rfl

theorem step_other {s s' : Sys} {t u : Tid} (h : step s t = some s') (hut : u ≠ t) :
    (s'.thr u).cont = (s.thr u).cont ∧ (s'.thr u).prog = (s.thr u).prog := by
  obtain ⟨ht, i, rest, s1, hc, he, rfl⟩ := step_eq h
  obtain ⟨s0, new, he0, rfl⟩ := exec_eq he
  rw [settle_other t u hut, setCont_thr_other _ _ _ _ hut]
  exact ⟨(execE_thr he0 u).1, (execE_thr he0 u).2.1⟩

theorem SettledAt_congr {s s' : Sys} {u : Tid} (hc : (s'.thr u).cont = (s.thr u).cont)
    (hp : (s'.thr u).prog = (s.thr u).prog) (h : SettledAt s u) : SettledAt s' u := by
  unfold SettledAt at *; rw [hc, hp]; exact h

theorem AllSettled_step {s s' : Sys} {t : Tid} (G : Good s) (S : AllSettled s) (h : step s t = some s') :
    AllSettled s' := by
  intro u
  by_cases hut : u = t
  · subst hut
    obtain ⟨ht, i, rest, s1, hc, he, rfl⟩ := step_eq h
    have A1 := HA_exec G.a ht hc he
    exact settle_settledAt u _ s1 (by unfold settleFuel; omega) (A1.fam u)
  · have := step_other h hut
    exact SettledAt_congr this.1 this.2 (S u)

theorem AllSettled_spur {s s' : Sys} {t : Tid} (S : AllSettled s) (h : spur s t = some s') : AllSettled s' := by
  obtain ⟨a, k, rest, hc, rfl⟩ := spur_eq h
  intro u
  exact SettledAt_congr (setThr_woken s t u true).1 (setThr_woken s t u true).2 (S u)

/-- What holds between the actions of a schedule of the repaired algorithm, for either subject: `Good`, and
    every thread settled.  Deadlock freedom and the latch theorems rest on this alone. -/
structure Inv3 (s : Sys) : Prop where
  g : Good s
  st : AllSettled s

theorem Inv3_act {s s' : Sys} {a : Act} (I : Inv3 s) (h : act s a = some s') : Inv3 s' := by
  cases a with
  | run t => exact ⟨Good_step I.g h, AllSettled_step I.g I.st h⟩
  | spur t => exact ⟨Good_spur I.g h, AllSettled_spur I.st h⟩

theorem runActs_inv (P : Sys → Prop) (hP : ∀ s a s', P s → act s a = some s' → P s') :
    ∀ (sched : List Act) (s : Sys), P s → P (runActs s sched) := by
  intro sched
  induction sched with
  | nil => intro s h; exact h
  | cons a as ih =>
    intro s h
    unfold runActs
    simp only [List.foldl_cons]
    apply ih
    cases ha : act s a with
    | none => simpa using h
    | some s' => simpa using hP s a s' h ha

/-- the state before any operation has been started -/
def init0 (a : Algo) (kd : Kind) (behs : List Beh) (progs : List (List Op)) : Sys :=
  { algo := a, kind := kd, behs := behs, n := progs.length,
    thr := fun t => { prog := progs.getD t [] }, owner := fun _ => true }

theorem init_eq (a : Algo) (kd : Kind) (behs : List Beh) (progs : List (List Op)) :
    init a kd behs progs = startAll progs.length (init0 a kd behs progs) := rfl

theorem startAll_thr_ge (s : Sys) : ∀ k t, k ≤ t → (startAll k s).thr t = s.thr t := by
  intro k
  induction k with
  | zero => intro t _; rfl
  | succ k ih =>
    intro t hkt
    have hne : t ≠ k := fun h => by subst h; exact Nat.lt_irrefl _ hkt
    show (expand (startAll k s) k).thr t = s.thr t
    rw [expand_thr_other _ _ _ hne, ih t (Nat.le_of_succ_le hkt)]

theorem Good_init0 (kd : Kind) (behs : List Beh) (progs : List (List Op)) : Good (init0 .repaired kd behs progs) := by
  constructor
  · refine ⟨rfl, ?_, ?_, ?_, ?_⟩
    · intro t i hi; simp [init0] at hi
    · intro t ht; simp only [init0] at ht ⊢; simp [List.getD_eq_getElem?_getD, List.getElem?_eq_none ht]
    · intro t i hi; simp [init0] at hi
    · intro t i hi; simp [init0] at hi
  · refine ⟨rfl, ?_, ?_, ?_, List.nodup_nil, ?_, ?_, ?_, ?_⟩ <;> simp [init0, hd]

theorem Good_startAll {s : Sys} (G : Good s) (hc : ∀ t, (s.thr t).cont = []) : ∀ k, Good (startAll k s) := by
  intro k
  induction k with
  | zero => exact G
  | succ k ih =>
    have h0 : ((startAll k s).thr k).cont = [] := by rw [startAll_thr_ge s k k (Nat.le_refl _)]; exact hc k
    exact ⟨HA_expand ih.a, HL_expand ih.a ih.l h0⟩

theorem AllSettled_startAll {s : Sys} (hc : ∀ t, (s.thr t).cont = []) :
    ∀ k t, t < k → SettledAt (startAll k s) t := by
  intro k
  induction k with
  | zero => intro t ht; cases ht
  | succ k ih =>
    intro t ht
    by_cases htk : t = k
    · subst htk
      have h0 : ((startAll t s).thr t).cont = [] := by rw [startAll_thr_ge s t t (Nat.le_refl _)]; exact hc t
      exact expand_settledAt _ t h0
    · have : t < k := Nat.lt_of_le_of_ne (Nat.le_of_lt_succ ht) htk
      have hthr : (startAll (k + 1) s).thr t = (startAll k s).thr t := expand_thr_other _ _ _ htk
      exact SettledAt_congr (by rw [hthr]) (by rw [hthr]) (ih t this)

theorem Inv3_init (kd : Kind) (behs : List Beh) (progs : List (List Op)) : Inv3 (init .repaired kd behs progs) := by
  rw [init_eq]
  have hc : ∀ t, ((init0 Algo.repaired kd behs progs).thr t).cont = [] := fun t => rfl
  refine ⟨Good_startAll (Good_init0 kd behs progs) hc _, ?_⟩
  intro t
  by_cases ht : t < progs.length
  · exact AllSettled_startAll hc _ t ht
  · have hge : progs.length ≤ t := Nat.le_of_not_lt ht
    unfold SettledAt
    rw [startAll_thr_ge _ _ _ hge]
    simp [init0, List.getD_eq_getElem?_getD, List.getElem?_eq_none hge]

theorem Inv3_reach (kd : Kind) (behs : List Beh) (progs : List (List Op)) (sched : List Act) :
    Inv3 (runActs (init .repaired kd behs progs) sched) :=
  runActs_inv Inv3 (fun _ _ _ I h => Inv3_act I h) sched _ (Inv3_init kd behs progs)

/-- instructions that can always be executed (they release, signal, or touch no lock) -/
def Instr.alwaysOn : Instr → Bool
  | .noop | .dropO _ | .deliver _ _ _ _ | .relM | .relMR | .relSnap _ _ _ | .relRead | .relWrite
  | .getWait _ _ | .getUnlockL _ _ | .getUnlockR _ _ | .putNotify _ _ | .putUnlockL _ _ | .putUnlockR _ _ => true
  | _ => false

theorem execE_alwaysOn (s : Sys) (t : Tid) {i : Instr} (h : i.alwaysOn = true) : (execE s t i).isSome = true := by
  cases i <;> simp [Instr.alwaysOn] at h <;> simp [execE]
  split <;> (try split) <;> simp

theorem enabled_of_execE {s : Sys} {t : Tid} {i : Instr} {rest : List Instr} (ht : t < s.n)
    (hc : (s.thr t).cont = i :: rest) (h : (execE s t i).isSome = true) : enabled s t = true := by
  unfold enabled step
  rw [if_pos ht, hc]
  simp only [exec]
  cases he : execE s t i with
  | none => rw [he] at h; cases h
  | some r => simp

theorem execE_none_of_not_enabled {s : Sys} {t : Tid} {i : Instr} {rest : List Instr} (ht : t < s.n)
    (hc : (s.thr t).cont = i :: rest) (h : enabled s t = false) : execE s t i = none := by
  cases he : execE s t i with
  | none => rfl
  | some r =>
    have := enabled_of_execE ht hc (by rw [he]; rfl)
    rw [h] at this; cases this

theorem lt_n_of_cont {s : Sys} (A : HA s) {u : Tid} {j : Instr} (h : hd s u = some j) : u < s.n := by
  apply Nat.lt_of_not_le
  intro hle
  have := (A.beyond u hle).1
  simp [hd, this] at h

theorem cont_of_hd {s : Sys} {u : Tid} {j : Instr} (h : hd s u = some j) : ∃ r, (s.thr u).cont = j :: r := by
  unfold hd at h
  cases hc : (s.thr u).cont with
  | nil => rw [hc] at h; cases h
  | cons j' r => rw [hc] at h; cases h; exact ⟨r, rfl⟩

theorem enabled_of_hd {s : Sys} (A : HA s) {u : Tid} {j : Instr} (h : hd s u = some j)
    (he : (execE s u j).isSome = true) : u < s.n ∧ enabled s u = true := by
  obtain ⟨r, hc⟩ := cont_of_hd h
  exact ⟨lt_n_of_cont A h, enabled_of_execE (lt_n_of_cont A h) hc he⟩

theorem enabled_of_hd_alwaysOn {s : Sys} (A : HA s) {u : Tid} {j : Instr} (h : hd s u = some j)
    (hj : j.alwaysOn = true) : ∃ u, u < s.n ∧ enabled s u = true :=
  ⟨u, enabled_of_hd A h (execE_alwaysOn s u hj)⟩

theorem hd_of_waitingOn {s : Sys} {t : Tid} {a k : Nat} (hw : waitingOn s t = some (a, k)) :
    hd s t = some (.getReacq a k) := by
  unfold waitingOn at hw
  split at hw
  · rename_i a' k' r hc; simp at hw; obtain ⟨rfl, rfl⟩ := hw; simp [hd, hc]
  · cases hw

theorem alwaysOn_of_holdsM {j : Instr} (h : j.holdsM = true) : j.alwaysOn = true := by
  cases j <;> simp_all [Instr.holdsM, Instr.alwaysOn]
theorem alwaysOn_of_holdsVw {j : Instr} (h : j.holdsVw = true) : j.alwaysOn = true := by
  cases j <;> simp_all [Instr.holdsVw, Instr.alwaysOn]
theorem alwaysOn_of_holdsL {a k : Nat} {j : Instr} (h : j.holdsL a k = true) : j.alwaysOn = true := by
  simp [Instr.holdsL] at h; rcases h with ((rfl | rfl) | rfl) | rfl <;> rfl

theorem any_elim {P : Instr → Bool} {o : Option Instr} (h : o.any P = true) : ∃ j, o = some j ∧ P j = true := by
  cases o with
  | none => cases h
  | some j => exact ⟨j, rfl, by simpa using h⟩

/-- where no thread can move, no lock is held: a holder's next instruction releases, signals, or asks for
    a lock further down the order (future mutex → latch mutex; value read lock → `M`), whose holder can move -/
theorem locks_free_of_stuck {s : Sys} (I : Inv3 s) (hex : ¬ ∃ t, t < s.n ∧ enabled s t = true) :
    s.lockM.free = true ∧ s.lockV.free = true ∧ (∀ a k, s.lockL a k = none) ∧ ∀ a k, s.lockR a k = none := by
  have A := I.g.a
  have L := I.g.l
  have kill : ∀ u j, hd s u = some j → j.alwaysOn = true → False :=
    fun u j h hj => hex (enabled_of_hd_alwaysOn A h hj)
  have hM : s.lockM.free = true := by
    cases hw : s.lockM.writer with
    | none => simp [RW.free, hw, L.mR]
    | some u => obtain ⟨j, hj, hp⟩ := L.mW u hw; exact (kill u j hj (alwaysOn_of_holdsM hp)).elim
  have hL : ∀ a k, s.lockL a k = none := by
    intro a k
    cases hl : s.lockL a k with
    | none => rfl
    | some u =>
      obtain ⟨j, hj, hp⟩ := any_elim ((L.lL a k u).1 hl)
      exact (kill u j hj (alwaysOn_of_holdsL hp)).elim
  refine ⟨hM, ?_, hL, fun a k => ?_⟩
  · cases hw : s.lockV.writer with
    | some u => obtain ⟨j, hj, hp⟩ := L.vW u hw; exact (kill u j hj (alwaysOn_of_holdsVw hp)).elim
    | none =>
      cases hr : s.lockV.readers with
      | nil => simp [RW.free, hw, hr]
      | cons u us =>
        obtain ⟨j, hj, hp⟩ := L.vR u (by simp [hr])
        exfalso
        cases j <;> simp [Instr.holdsVr] at hp
        · exact hex ⟨u, enabled_of_hd A hj (by simp [execE, hM])⟩
        · exact kill u _ hj rfl
        · exact kill u _ hj rfl
  · cases hl : s.lockR a k with
    | none => rfl
    | some u =>
      exfalso
      obtain ⟨j, hj, hp⟩ := any_elim ((L.lR a k u).1 hl)
      simp [Instr.holdsR] at hp
      rcases hp with (((rfl | rfl) | rfl) | rfl) | rfl
      · exact kill u _ hj rfl
      · exact hex ⟨u, enabled_of_hd A hj (by simp [execE, hL])⟩
      · exact kill u _ hj rfl
      · exact kill u _ hj rfl
      · exact kill u _ hj rfl

/-- Deadlock freedom, as a property of every state satisfying the invariant. -/
theorem enabled_or_legit {s : Sys} (I : Inv3 s) :
    (∃ t, t < s.n ∧ enabled s t = true) ∨ (∀ t, finished s t = true ∨ legitWait s t = true) := by
  by_cases hex : ∃ t, t < s.n ∧ enabled s t = true
  · exact .inl hex
  · right
    intro t
    obtain ⟨hM, hV, hL, hR⟩ := locks_free_of_stuck I hex
    have hVr : s.lockV.canRead = true := by simp [RW.free] at hV; simp [RW.canRead, hV.1]
    cases hc : (s.thr t).cont with
    | nil => left; simp [finished, hc]
    | cons i rest =>
      right
      have hdt : hd s t = some i := by simp [hd, hc]
      have ht := lt_n_of_cont I.g.a hdt
      have hnone := execE_none_of_not_enabled ht hc (Bool.eq_false_iff.2 fun he => hex ⟨t, ht, he⟩)
      have hsett := I.st t
      unfold SettledAt at hsett; rw [hc] at hsett; simp only at hsett
      have hrep := I.g.a.fam t i (by simp [hc])
      -- with every lock free, only a sleeping waiter can be disabled
      cases i <;> simp [Instr.isRep] at hrep <;> simp [Instr.isMarker] at hsett <;>
        simp [execE, hM, hV, hVr, hL, hR] at hnone
      case deliver => split at hnone <;> (try split at hnone) <;> simp at hnone
      case acqRead => split at hnone <;> simp at hnone
      case acqWrite => split at hnone <;> simp at hnone
      case getReacq a k =>
        simp only [legitWait, waitingOn, hc]
        cases hop : s.lOpen a k with
        | false => simp [hnone]
        | true =>
          obtain ⟨w, hw⟩ := I.g.l.hw t a k hdt hop hnone
          exact (hex (enabled_of_hd_alwaysOn I.g.a hw rfl)).elim

/-- a thread inside `Condvar::wait` of a latch whose flag is set is not blocked for good: it can move, or
    a thread holding the latch mutex (the notifier, or whoever will release the mutex) can -/
theorem waiter_not_blocked {s : Sys} (I : Inv3 s) {t : Tid} {a k : Nat} (hw : waitingOn s t = some (a, k))
    (ho : s.lOpen a k = true) :
    enabled s t = true ∨ ∃ u, u < s.n ∧ s.lockL a k = some u ∧ enabled s u = true := by
  have A := I.g.a
  have L := I.g.l
  have hh := hd_of_waitingOn hw
  have holder : ∀ u, s.lockL a k = some u → u < s.n ∧ enabled s u = true := by
    intro u hu
    obtain ⟨j, hj, hp⟩ := any_elim ((L.lL a k u).1 hu)
    exact enabled_of_hd A hj (execE_alwaysOn s u (alwaysOn_of_holdsL hp))
  cases hwk : (s.thr t).woken with
  | true =>
    cases hl : s.lockL a k with
    | none => exact .inl (enabled_of_hd A hh (by simp [execE, hwk, hl])).2
    | some u => exact .inr ⟨u, (holder u hl).1, rfl, (holder u hl).2⟩
  | false =>
    obtain ⟨u, hu⟩ := L.hw t a k hh ho hwk
    have hlu : s.lockL a k = some u := (L.lL a k u).2 (hd_some_any hu (by simp [Instr.holdsL]))
    exact .inr ⟨u, (holder u hlu).1, hlu, (holder u hlu).2⟩

end CG.Model.Rx
