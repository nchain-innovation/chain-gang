import CG.Model.Base58
/-!
Helper lemmas for C09: positional numerals in any base, the leading-zero preserving conversion
`conv`, the alphabet, the `base58` crate model, and for each decoder what acceptance means and that
the repaired version panics only where the `base58` crate model does.
-/
namespace CG.Proofs.Base58
open CG CG.Model.Base58

/-- the recursion stops when the number is used up: any fuel `≥ n` gives the same digits -/
theorem toDigitsAux_fuel (B : Nat) (hB : 2 ≤ B) (f g n : Nat) (hf : n ≤ f) (hg : n ≤ g) :
    toDigitsAux B f n = toDigitsAux B g n := by
  induction f generalizing g n with
  | zero =>
    have : n = 0 := by omega
    subst this
    cases g <;> rfl
  | succ f ih =>
    cases g with
    | zero =>
      have : n = 0 := by omega
      subst this
      rfl
    | succ g =>
      unfold toDigitsAux
      split
      · rfl
      · have : n / B < n := Nat.div_lt_self (by omega) (by omega)
        rw [ih g (n / B) (by omega) (by omega)]

theorem toDigitsLE_pos (B : Nat) (hB : 2 ≤ B) (n : Nat) (hn : n ≠ 0) :
    toDigitsLE B n = n % B :: toDigitsLE B (n / B) := by
  have : n / B < n := Nat.div_lt_self (by omega) (by omega)
  cases n with
  | zero => exact absurd rfl hn
  | succ m =>
    unfold toDigitsLE
    rw [toDigitsAux, if_neg hn, toDigitsAux_fuel B hB m _ _ (by omega) (Nat.le_refl _)]

theorem toDigitsLE_val (B : Nat) (hB : 2 ≤ B) (n : Nat) : valLE B (toDigitsLE B n) = n := by
  induction n using Nat.strongRecOn with
  | _ n ih =>
    by_cases hn : n = 0
    · subst hn
      rfl
    · rw [toDigitsLE_pos B hB n hn, valLE, ih (n / B) (Nat.div_lt_self (by omega) (by omega))]
      exact Nat.mod_add_div n B

theorem toDigitsLE_lt (B : Nat) (hB : 2 ≤ B) (n : Nat) : ∀ d ∈ toDigitsLE B n, d < B := by
  induction n using Nat.strongRecOn with
  | _ n ih =>
    by_cases hn : n = 0
    · subst hn
      nofun
    · rw [toDigitsLE_pos B hB n hn]
      exact List.forall_mem_cons.mpr
        ⟨Nat.mod_lt _ (by omega), ih (n / B) (Nat.div_lt_self (by omega) (by omega))⟩

theorem toDigitsLE_getLast (B : Nat) (hB : 2 ≤ B) (n : Nat) :
    (toDigitsLE B n).getLast? ≠ some 0 := by
  induction n using Nat.strongRecOn with
  | _ n ih =>
    by_cases hn : n = 0
    · subst hn
      nofun
    · rw [toDigitsLE_pos B hB n hn]
      have hv := toDigitsLE_val B hB (n / B)
      cases hq : toDigitsLE B (n / B) with
      | nil =>
        -- then `n / B = 0` (its value), so the one digit is `n ≠ 0`
        rw [hq] at hv
        have := Nat.mod_add_div n B
        rw [← hv, valLE, Nat.mul_zero, Nat.add_zero] at this
        simp [this, hn]
      | cons x xs =>
        rw [List.getLast?_cons_cons, ← hq]
        exact ih (n / B) (Nat.div_lt_self (by omega) (by omega))

theorem valLE_append (B : Nat) (a b : List Nat) :
    valLE B (a ++ b) = valLE B a + B ^ a.length * valLE B b := by
  induction a with
  | nil => simp [valLE]
  | cons x xs ih =>
    simp only [List.cons_append, valLE, ih, List.length_cons, Nat.pow_succ, Nat.mul_add]
    rw [Nat.mul_comm (B ^ xs.length) B, Nat.mul_assoc]
    omega

theorem valLE_replicate_zero (B k : Nat) : valLE B (List.replicate k 0) = 0 := by
  induction k with
  | zero => rfl
  | succ k ih => simp [List.replicate_succ, valLE, ih]

theorem valLE_lt (B : Nat) (ds : List Nat) (h : ∀ d ∈ ds, d < B) : valLE B ds < B ^ ds.length := by
  induction ds with
  | nil => simp [valLE]
  | cons x xs ih =>
    have hx : x < B := h x (by simp)
    have ih' := ih (fun d hd => h d (by simp [hd]))
    simp only [valLE, List.length_cons, Nat.pow_succ]
    have h1 : B * (valLE B xs + 1) ≤ B * B ^ xs.length := Nat.mul_le_mul_left B ih'
    rw [Nat.mul_add, Nat.mul_one] at h1
    rw [Nat.mul_comm (B ^ xs.length) B]
    omega

theorem valLE_eq_zero (B : Nat) (hB : 0 < B) (ds : List Nat) (hc : ds.getLast? ≠ some 0)
    (h : valLE B ds = 0) : ds = [] := by
  induction ds with
  | nil => rfl
  | cons x xs ih =>
    exfalso
    simp only [valLE] at h
    have hx : x = 0 := by omega
    have hv : valLE B xs = 0 :=
      (Nat.mul_eq_zero.mp (by omega : B * valLE B xs = 0)).resolve_left (by omega)
    cases xs with
    | nil => simp [hx] at hc
    | cons y ys =>
      rw [List.getLast?_cons_cons] at hc
      have := ih hc hv
      simp at this

theorem toDigitsLE_of_val (B : Nat) (hB : 2 ≤ B) (ds : List Nat) (hlt : ∀ d ∈ ds, d < B)
    (hc : ds.getLast? ≠ some 0) : toDigitsLE B (valLE B ds) = ds := by
  induction ds with
  | nil => rfl
  | cons x xs ih =>
    have hx : x < B := hlt x (by simp)
    have hne : valLE B (x :: xs) ≠ 0 := fun h0 => by
      have := valLE_eq_zero B (by omega) (x :: xs) hc h0
      cases this
    have hc' : xs.getLast? ≠ some 0 := by
      cases xs with
      | nil => nofun
      | cons y ys => rwa [List.getLast?_cons_cons] at hc
    rw [toDigitsLE_pos B hB _ hne, valLE, Nat.add_mul_mod_self_left, Nat.mod_eq_of_lt hx,
      Nat.add_mul_div_left _ _ (by omega : 0 < B), Nat.div_eq_of_lt hx, Nat.zero_add,
      ih (fun d hd => hlt d (by simp [hd])) hc']

theorem toDigitsLE_length_le (B : Nat) (hB : 2 ≤ B) (n k : Nat) (h : n < B ^ k) :
    (toDigitsLE B n).length ≤ k := by
  induction k generalizing n with
  | zero =>
    have : n = 0 := by simpa using h
    subst this
    exact Nat.le_refl 0
  | succ k ih =>
    by_cases hn : n = 0
    · subst hn
      exact Nat.zero_le _
    · rw [toDigitsLE_pos B hB n hn, List.length_cons]
      rw [Nat.pow_succ] at h
      exact Nat.succ_le_succ (ih (n / B) ((Nat.div_lt_iff_lt_mul (by omega)).mpr h))

theorem lt_pow_toDigitsLE_length (B : Nat) (hB : 2 ≤ B) (n : Nat) : n < B ^ (toDigitsLE B n).length := by
  have h := valLE_lt B (toDigitsLE B n) (toDigitsLE_lt B hB n)
  rwa [toDigitsLE_val B hB] at h

theorem toDigitsLE_length_ge (B : Nat) (hB : 2 ≤ B) (n k : Nat) (h : B ^ k ≤ n) :
    k + 1 ≤ (toDigitsLE B n).length :=
  Nat.lt_of_not_le fun hle =>
    absurd (Nat.lt_of_lt_of_le (lt_pow_toDigitsLE_length B hB n) (Nat.pow_le_pow_right (by omega) hle))
      (by omega)

theorem toDigitsLE_length_eq (B : Nat) (hB : 2 ≤ B) (n k : Nat) (h1 : B ^ k ≤ n)
    (h2 : n < B ^ (k + 1)) : (toDigitsLE B n).length = k + 1 :=
  Nat.le_antisymm (toDigitsLE_length_le B hB n (k + 1) h2) (toDigitsLE_length_ge B hB n k h1)

theorem toDigitsBE_head (B : Nat) (hB : 2 ≤ B) (n : Nat) : (toDigitsBE B n).head? ≠ some 0 := by
  unfold toDigitsBE
  rw [List.head?_reverse]
  exact toDigitsLE_getLast B hB n

theorem valBE_toDigitsBE (B : Nat) (hB : 2 ≤ B) (n : Nat) : valBE B (toDigitsBE B n) = n := by
  simp [valBE, toDigitsBE, toDigitsLE_val B hB]

theorem toDigitsBE_valBE (B : Nat) (hB : 2 ≤ B) (ds : List Nat) (hlt : ∀ d ∈ ds, d < B)
    (hc : ds.head? ≠ some 0) : toDigitsBE B (valBE B ds) = ds := by
  unfold toDigitsBE valBE
  rw [toDigitsLE_of_val B hB ds.reverse (by simpa using hlt) (by rw [List.getLast?_reverse]; exact hc)]
  simp

theorem valBE_cons (B x : Nat) (xs : List Nat) :
    valBE B (x :: xs) = x * B ^ xs.length + valBE B xs := by
  simp only [valBE, List.reverse_cons, valLE_append, valLE, List.length_reverse]
  rw [Nat.mul_zero, Nat.add_zero, Nat.mul_comm]
  omega

theorem valBE_replicate_append (B k : Nat) (t : List Nat) :
    valBE B (List.replicate k 0 ++ t) = valBE B t := by
  simp [valBE, valLE_append, valLE_replicate_zero]

theorem toDigitsBE_length (B n : Nat) : (toDigitsBE B n).length = (toDigitsLE B n).length := by
  simp [toDigitsBE]

theorem lz_split (xs : List Nat) :
    ∃ t, xs = List.replicate (lz xs) 0 ++ t ∧ t.head? ≠ some 0 := by
  induction xs with
  | nil => exact ⟨[], by simp [lz]⟩
  | cons x xs ih =>
    by_cases hx : x = 0
    · subst hx
      obtain ⟨t, h1, h2⟩ := ih
      refine ⟨t, ?_, h2⟩
      simp only [lz, List.replicate_succ, List.cons_append]
      rw [← h1]
    · refine ⟨x :: xs, ?_, by simp [hx]⟩
      have : lz (x :: xs) = 0 := by
        cases x with
        | zero => omega
        | succ n => rfl
      simp [this]

theorem lz_replicate_append (k : Nat) (t : List Nat) (ht : t.head? ≠ some 0) :
    lz (List.replicate k 0 ++ t) = k := by
  induction k with
  | zero =>
    simp only [List.replicate_zero, List.nil_append]
    cases t with
    | nil => rfl
    | cons x xs =>
      cases x with
      | zero => simp at ht
      | succ n => rfl
  | succ k ih => simp [List.replicate_succ, lz, ih]

theorem lz_le_length (xs : List Nat) : lz xs ≤ xs.length := by
  induction xs with
  | nil => simp [lz]
  | cons x xs ih =>
    cases x with
    | zero =>
      simp only [lz, List.length_cons]
      omega
    | succ n => simp [lz]

theorem conv_lt (B C : Nat) (hC : 2 ≤ C) (xs : List Nat) : ∀ y ∈ conv B C xs, y < C := by
  intro y hy
  simp only [conv, List.mem_append, List.mem_replicate] at hy
  rcases hy with ⟨_, rfl⟩ | hy
  · omega
  · exact toDigitsLE_lt C hC _ y (by simpa [toDigitsBE] using hy)

theorem lz_conv (B C : Nat) (hC : 2 ≤ C) (xs : List Nat) : lz (conv B C xs) = lz xs :=
  lz_replicate_append _ _ (toDigitsBE_head C hC _)

theorem valBE_conv (B C : Nat) (hC : 2 ≤ C) (xs : List Nat) :
    valBE C (conv B C xs) = valBE B xs := by
  unfold conv
  rw [valBE_replicate_append, valBE_toDigitsBE C hC]

theorem conv_self (B : Nat) (hB : 2 ≤ B) (xs : List Nat) (h : ∀ x ∈ xs, x < B) :
    conv B B xs = xs := by
  obtain ⟨t, hx, ht⟩ := lz_split xs
  have htlt : ∀ d ∈ t, d < B := fun d hd => h d (by rw [hx]; simp [hd])
  have hv : valBE B xs = valBE B t := by
    conv => lhs; rw [hx]
    exact valBE_replicate_append B _ t
  unfold conv
  rw [hv, toDigitsBE_valBE B hB t htlt ht]
  exact hx.symm

theorem conv_conv (B C : Nat) (hB : 2 ≤ B) (hC : 2 ≤ C) (xs : List Nat) (h : ∀ x ∈ xs, x < B) :
    conv C B (conv B C xs) = xs := by
  have : conv C B (conv B C xs) = conv B B xs := by
    rw [conv, lz_conv B C hC, valBE_conv B C hC, conv]
  rw [this, conv_self B hB xs h]

theorem toDigitsLE_length_mono (B C : Nat) (hB : 2 ≤ B) (hBC : B ≤ C) (n : Nat) :
    (toDigitsLE C n).length ≤ (toDigitsLE B n).length :=
  toDigitsLE_length_le C (by omega) n _
    (Nat.lt_of_lt_of_le (lt_pow_toDigitsLE_length B hB n) (Nat.pow_le_pow_left hBC _))

theorem conv_length_le (B C : Nat) (hB : 2 ≤ B) (hBC : B ≤ C) (xs : List Nat)
    (h : ∀ x ∈ xs, x < B) : (toDigitsBE C (valBE B xs)).length + lz xs ≤ xs.length := by
  have hl := congrArg List.length (conv_self B hB xs h)
  simp only [conv, List.length_append, List.length_replicate, toDigitsBE_length] at hl
  have := toDigitsLE_length_mono B C hB hBC (valBE B xs)
  rw [toDigitsBE_length]
  omega

theorem toNat_lt_256 (b : Bytes) : ∀ x ∈ b.map UInt8.toNat, x < 256 :=
  List.forall_mem_map.mpr fun y _ => y.toNat_lt

theorem encode58_lt (b : Bytes) : ∀ d ∈ encode58 b, d < 58 := conv_lt 256 58 (by omega) _

theorem all_lt_iff (ds : List Nat) : ds.all (· < 58) = true ↔ ∀ d ∈ ds, d < 58 := by
  simp [List.all_eq_true]

theorem decode58_encode58 (b : Bytes) : decode58 (encode58 b) = some b := by
  unfold decode58
  rw [if_pos ((all_lt_iff _).mpr (encode58_lt b))]
  unfold encode58
  rw [conv_conv 256 58 (by omega) (by omega) _ (toNat_lt_256 b)]
  simp [Function.comp_def]

theorem encode58_decode58 (ds : List Nat) (b : Bytes) (h : decode58 ds = some b) :
    encode58 b = ds := by
  unfold decode58 at h
  split at h
  · rename_i hall
    injection h with h
    subst h
    unfold encode58
    rw [List.map_map, List.map_congr_left (f := UInt8.toNat ∘ UInt8.ofNat) (g := id) fun n hn =>
      UInt8.toNat_ofNat_of_lt' (conv_lt 58 256 (by omega) ds n hn), List.map_id]
    exact conv_conv 58 256 (by omega) (by omega) ds ((all_lt_iff _).mp hall)
  · simp at h

theorem charDigit_digitChar : ∀ d : Fin 58, charDigit (digitChar d.val) = some d.val := by
  decide +kernel

theorem charDigit_eq_none (c : Char) (h : 122 < c.toNat) : charDigit c = none := by
  unfold charDigit
  simp only
  rw [if_neg (by omega), if_neg (by omega), if_neg (by omega), if_neg (by omega), if_neg (by omega),
    if_neg (by omega)]

/-- the table up to `'z'`: whatever `charDigit` returns is a digit whose character is the argument -/
theorem charDigit_table : ∀ n : Fin 123,
    (charDigit (Char.ofNat n.val)).all (fun d => d < 58 && digitChar d == Char.ofNat n.val) = true := by
  decide +kernel

theorem digitChar_of_charDigit (c : Char) (d : Nat) (h : charDigit c = some d) :
    d < 58 ∧ digitChar d = c := by
  have hc : c.toNat < 123 := by
    apply Nat.lt_of_not_le
    intro hge
    rw [charDigit_eq_none c hge] at h
    cases h
  have := charDigit_table ⟨c.toNat, hc⟩
  simpa only [Char.ofNat_toNat, h, Option.all_some, Bool.and_eq_true, decide_eq_true_eq, beq_iff_eq]
    using this

theorem digitsOf_map_digitChar (ds : List Nat) (h : ∀ d ∈ ds, d < 58) :
    digitsOf (ds.map digitChar) = some ds := by
  induction ds with
  | nil => rfl
  | cons x xs ih =>
    simp only [List.map_cons, digitsOf]
    rw [charDigit_digitChar ⟨x, h x (by simp)⟩, ih (fun d hd => h d (by simp [hd]))]

theorem digitsOf_eq_some (s : List Char) (ds : List Nat) (h : digitsOf s = some ds) :
    (∀ d ∈ ds, d < 58) ∧ s = ds.map digitChar := by
  induction s generalizing ds with
  | nil =>
    cases h
    simp
  | cons c r ih =>
    simp only [digitsOf] at h
    cases hc : charDigit c with
    | none => simp [hc] at h
    | some d =>
      cases hr : digitsOf r with
      | none => simp [hc, hr] at h
      | some ds' =>
        simp only [hc, hr] at h
        cases h
        obtain ⟨hd, rfl⟩ := digitChar_of_charDigit c d hc
        obtain ⟨hlt, rfl⟩ := ih ds' hr
        exact ⟨List.forall_mem_cons.mpr ⟨hd, hlt⟩, rfl⟩

theorem digitsOf_lt (s : List Char) (ds : List Nat) (h : digitsOf s = some ds) :
    ∀ d ∈ ds, d < 58 := (digitsOf_eq_some s ds h).1

theorem digitsOf_length (s : List Char) (ds : List Nat) (h : digitsOf s = some ds) :
    ds.length = s.length := by
  rw [(digitsOf_eq_some s ds h).2, List.length_map]

theorem fromBase58_ok (s : List Char) (b : Bytes) (h : fromBase58 s = .ok b) :
    ∃ ds, digitsOf s = some ds ∧ decode58 ds = some b := by
  unfold fromBase58 at h
  cases hd : digitsOf s with
  | none => simp [hd] at h
  | some ds =>
    simp only [hd] at h
    split at h
    · simp at h
    · split at h
      · simp at h
      · injection h with h
        refine ⟨ds, rfl, ?_⟩
        unfold decode58
        rw [if_pos ((all_lt_iff _).mpr (digitsOf_lt s ds hd))]
        simp only [conv]
        rw [h]

theorem fromBase58_length (s : List Char) (b : Bytes) (h : fromBase58 s = .ok b) :
    b.length ≤ s.length := by
  obtain ⟨ds, hd, hdec⟩ := fromBase58_ok s b h
  rw [decode58, if_pos ((all_lt_iff _).mpr (digitsOf_lt s ds hd))] at hdec
  cases hdec
  have := conv_length_le 58 256 (by omega) (by omega) ds (digitsOf_lt s ds hd)
  have hl := digitsOf_length s ds hd
  simp only [conv, List.length_map, List.length_append, List.length_replicate]
  omega

/-- strings of at most 132 characters never reach the crate's underflow -/
theorem fromBase58_no_panic (s : List Char) (h : s.length ≤ CAP) (p : String) :
    fromBase58 s ≠ .panic p := by
  unfold fromBase58
  cases hd : digitsOf s with
  | none => simp
  | some ds =>
    simp only
    split
    · simp
    · have := conv_length_le 58 256 (by omega) (by omega) ds (digitsOf_lt s ds hd)
      have hl := digitsOf_length s ds hd
      rw [if_neg (by omega)]
      simp

theorem fromBase58_inj (s1 s2 : List Char) (b : Bytes) (h1 : fromBase58 s1 = .ok b)
    (h2 : fromBase58 s2 = .ok b) : s1 = s2 := by
  obtain ⟨d1, hd1, e1⟩ := fromBase58_ok s1 b h1
  obtain ⟨d2, hd2, e2⟩ := fromBase58_ok s2 b h2
  have : d1 = d2 := by rw [← encode58_decode58 d1 b e1, ← encode58_decode58 d2 b e2]
  subst this
  rw [(digitsOf_eq_some s1 d1 hd1).2, (digitsOf_eq_some s2 d1 hd2).2]

theorem valBE_bytes_lt (b : Bytes) : valBE 256 (b.map UInt8.toNat) < 256 ^ b.length := by
  have := valLE_lt 256 (b.map UInt8.toNat).reverse (by
    intro d hd
    exact toNat_lt_256 b d (by simpa using hd))
  simpa [valBE] using this

theorem fromBase58_toBase58 (b : Bytes) (h : b.length ≤ CAP) : fromBase58 (toBase58 b) = .ok b := by
  have hcc : conv 58 256 (encode58 b) = b.map UInt8.toNat :=
    conv_conv 256 58 (by omega) (by omega) _ (toNat_lt_256 b)
  -- value and length of the decoded digits are those of the bytes
  have hval : valBE 58 (encode58 b) < 256 ^ CAP := by
    rw [← valBE_conv 58 256 (by omega), hcc]
    exact Nat.lt_of_lt_of_le (valBE_bytes_lt b) (Nat.pow_le_pow_right (by omega) h)
  have hlen : lz (encode58 b) + (toDigitsBE 256 (valBE 58 (encode58 b))).length = b.length := by
    have := congrArg List.length hcc
    simpa [conv] using this
  unfold fromBase58 toBase58
  rw [digitsOf_map_digitChar _ (encode58_lt b)]
  simp only
  rw [if_neg (by omega), if_neg (by omega)]
  show Outcome.ok ((conv 58 256 (encode58 b)).map UInt8.ofNat) = _
  rw [hcc]
  simp [Function.comp_def]

/-- a string of `'1'`s is all leading zeros: it decodes to as many zero bytes, or overruns the buffer -/
theorem fromBase58_replicate_one (n : Nat) :
    fromBase58 (List.replicate n '1') =
      if CAP < n then .panic "base58:from_base58:leading_zeros-zcount"
      else .ok (List.replicate n 0) := by
  have hd : digitsOf (List.replicate n '1') = some (List.replicate n 0) := by
    have := digitsOf_map_digitChar (List.replicate n 0) (by simp)
    rwa [List.map_replicate] at this
  have hv : valBE 58 (List.replicate n 0) = 0 := by
    have := valBE_replicate_append 58 n []
    rwa [List.append_nil] at this
  have hz : lz (List.replicate n 0) = n := by
    simpa using lz_replicate_append n [] (by simp)
  unfold fromBase58
  rw [hd]
  simp only [hv, hz]
  rw [if_neg (by decide)]
  simp [toDigitsBE, toDigitsLE, toDigitsAux]

theorem checksum4_length (H : Bytes → Bytes) (hH : ∀ x, 4 ≤ (H x).length) (b : Bytes) :
    (checksum4 H b).length = 4 := by
  have := hH b
  simp only [checksum4, List.length_take]
  omega

theorem decodeChk_encodeChk (r : Bool) (H : Bytes → Bytes) (hH : ∀ x, 4 ≤ (H x).length) (b : Bytes)
    (hb : b.length + 4 ≤ CAP) : decodeChk r H (encodeChk H b) = .ok b := by
  have hc := checksum4_length H hH b
  unfold decodeChk encodeChk
  rw [fromBase58_toBase58 _ (by rw [List.length_append, hc]; omega)]
  simp only [List.length_append, hc]
  rw [if_neg (by omega)]
  have h1 : b.length + 4 - 4 = b.length := by omega
  rw [h1, List.take_left', List.drop_left']
  · simp
  · rfl
  · rfl

/-- what acceptance by `decode_base58_checksum` means -/
theorem decodeChk_ok (r : Bool) (H : Bytes → Bytes) (s : List Char) (p : Bytes)
    (h : decodeChk r H s = .ok p) :
    ∃ cs, fromBase58 s = .ok (p ++ cs) ∧ cs.length = 4 ∧ cs = checksum4 H p := by
  unfold decodeChk at h
  cases hf : fromBase58 s with
  | err e => simp [hf] at h
  | panic q => simp [hf] at h
  | ok d =>
    simp only [hf] at h
    split at h
    · cases r <;> simp at h
    · rename_i hlen
      split at h
      · simp at h
      · rename_i hcs
        injection h with h
        refine ⟨d.drop (d.length - 4), ?_, ?_, ?_⟩
        · rw [← h, List.take_append_drop]
        · rw [List.length_drop]
          omega
        · simp only [bne_iff_ne, ne_eq, Decidable.not_not] at hcs
          rw [← h, hcs]

/-- what acceptance by `addr_decode` means -/
theorem addrDecode_ok (H : Bytes → Bytes) (s : List Char) (n : Net) (h : Bytes) (t : AddrType)
    (hd : addrDecode H s n = .ok (h, t)) :
    ∃ cs, fromBase58 s = .ok (addrFlag n t :: h ++ cs) ∧ cs.length = 4 ∧
      cs = (H (addrFlag n t :: h)).take 4 ∧ h.length = 20 := by
  unfold addrDecode at hd
  cases hf : fromBase58 s with
  | err e =>
    rw [hf] at hd
    cases hd
  | panic q =>
    rw [hf] at hd
    cases hd
  | ok v =>
    rw [hf] at hd
    simp only at hd
    by_cases hlen : v.length < 6
    · rw [if_pos hlen] at hd
      cases hd
    rw [if_neg hlen] at hd
    by_cases hcs : (v.drop (v.length - 4) != (H (v.take (v.length - 4))).take 4) = true
    · rw [if_pos hcs] at hd
      cases hd
    rw [if_neg hcs] at hd
    simp only [bne_iff_ne, ne_eq, Decidable.not_not] at hcs
    have hl4 : (v.drop (v.length - 4)).length = 4 := by rw [List.length_drop]; omega
    have hv := List.take_append_drop (v.length - 4) v
    cases hv0 : v.take (v.length - 4) with
    | nil =>
      rw [hv0] at hd
      cases hd
    | cons tb rest =>
      rw [hv0] at hd
      simp only at hd
      -- the payload passed the version byte check of the type returned, and the length check
      have key : tb = addrFlag n t ∧ rest = h ∧ ¬ ((tb :: rest).length != 21) = true := by
        by_cases hpk : (tb == p2pkhFlag n) = true
        · rw [if_pos hpk] at hd
          by_cases hl : ((tb :: rest).length != 21) = true
          · rw [if_pos hl] at hd
            cases hd
          · rw [if_neg hl] at hd
            cases hd
            exact ⟨beq_iff_eq.mp hpk, rfl, hl⟩
        · rw [if_neg hpk] at hd
          by_cases hsh : (tb == p2shFlag n) = true
          · rw [if_pos hsh] at hd
            by_cases hl : ((tb :: rest).length != 21) = true
            · rw [if_pos hl] at hd
              cases hd
            · rw [if_neg hl] at hd
              cases hd
              exact ⟨beq_iff_eq.mp hsh, rfl, hl⟩
          · rw [if_neg hsh] at hd
            cases hd
      obtain ⟨rfl, rfl, hl21⟩ := key
      exact ⟨v.drop (v.length - 4), by rw [← hv0, hv], hl4, by rw [hcs, hv0], by simpa using hl21⟩

/-- what acceptance by `ExtendedKey::decode` means (both trees) -/
theorem xkeyDecode_ok (r : Bool) (H : Bytes → Bytes) (hH : ∀ x, 4 ≤ (H x).length) (s : List Char)
    (k : Bytes) (hd : xkeyDecode r H s = .ok k) :
    ∃ cs, fromBase58 s = .ok (k ++ cs) ∧ cs.length = 4 ∧ cs = (H k).take 4 ∧ k.length = 78 := by
  unfold xkeyDecode at hd
  cases hf : fromBase58 s with
  | err e =>
    rw [hf] at hd
    cases hd
  | panic q =>
    rw [hf] at hd
    cases hd
  | ok v =>
    rw [hf] at hd
    simp only at hd
    split at hd
    · cases hd
    split at hd
    · cases hd
    rename_i hlen
    split at hd
    · cases hd
    rename_i hcs
    simp only [bne_iff_ne, ne_eq, Decidable.not_not] at hcs
    cases hd
    have hl4 : (v.drop 78).length = 4 := by
      rw [← hcs, List.length_take]
      have := hH (v.take 78)
      omega
    exact ⟨v.drop 78, by rw [List.take_append_drop], hl4, hcs.symm, by rw [List.length_take]; omega⟩

/-- For a cascade of `if`s whose leaves are all `ok` or `err`: `apply_ite` pushes `isPanic` to the
    leaves, where it computes to `false`, and `ite_self` then collapses the cascade. -/
theorem ne_panic_of_isPanic {α} {o : Outcome α} (q : String) (h : o.isPanic = false) :
    o ≠ .panic q := by
  intro e
  rw [e] at h
  cases h

theorem decodeChk_ne_panic (H : Bytes → Bytes) (s : List Char)
    (hf : ∀ q, fromBase58 s ≠ .panic q) (q : String) : decodeChk true H s ≠ .panic q := by
  unfold decodeChk
  cases hs : fromBase58 s with
  | err e => nofun
  | panic p => exact absurd hs (hf p)
  | ok d =>
    apply ne_panic_of_isPanic
    simp only [if_true, apply_ite Outcome.isPanic]
    simp only [Outcome.isPanic, ite_self]

theorem addrDecode_ne_panic (H : Bytes → Bytes) (s : List Char) (n : Net)
    (hf : ∀ q, fromBase58 s ≠ .panic q) (q : String) : addrDecode H s n ≠ .panic q := by
  unfold addrDecode
  cases hs : fromBase58 s with
  | err e => nofun
  | panic p => exact absurd hs (hf p)
  | ok v =>
    simp only
    by_cases hl : v.length < 6
    · rw [if_pos hl]
      nofun
    · rw [if_neg hl]
      -- `v0` has at least two bytes: `v0[0]` is in range
      cases hv : v.take (v.length - 4) with
      | nil =>
        have := congrArg List.length hv
        rw [List.length_take] at this
        simp at this
        omega
      | cons tb rest =>
        apply ne_panic_of_isPanic
        simp only [apply_ite Outcome.isPanic]
        simp only [Outcome.isPanic, ite_self]

theorem xkeyDecode_ne_panic (H : Bytes → Bytes) (s : List Char)
    (hf : ∀ q, fromBase58 s ≠ .panic q) (q : String) : xkeyDecode true H s ≠ .panic q := by
  unfold xkeyDecode
  cases hs : fromBase58 s with
  | err e => nofun
  | panic p => exact absurd hs (hf p)
  | ok v =>
    simp only [Bool.true_and]
    by_cases hl : v.length = 82
    · rw [if_neg (by simp [hl]), if_neg (by omega)]
      split <;> nofun
    · rw [if_pos (by simpa using hl)]
      nofun

theorem wifDecode_ne_panic (H : Bytes → Bytes) (keyOf : Bytes → Option Bytes) (s : List Char)
    (hf : ∀ q, decodeChk true H s ≠ .panic q) (q : String) :
    wifDecode true H keyOf s ≠ .panic q := by
  unfold wifDecode
  cases hs : decodeChk true H s with
  | err e => nofun
  | panic p => exact absurd hs (hf p)
  | ok d =>
    cases d with
    | nil => nofun
    | cons x tl =>
      simp only [List.head?_cons]
      split
      · nofun
      · rename_i net hnet
        cases hl : (x :: tl).getLast? with
        | none => nofun
        | some lastByte =>
          simp only
          by_cases hc : (s.length == 52 && lastByte == 1) = true
          · have h1 : 1 ≤ (x :: tl).length - 1 := by
              cases tl with
              | cons y ys => simp
              | nil =>
                -- a single byte would be both the prefix and the compression marker 1
                exfalso
                simp only [List.getLast?_singleton, Option.some.injEq] at hl
                subst hl
                have : x = 1 := (by simpa using hc : s.length = 52 ∧ x = 1).2
                subst this
                have a : ((1 : UInt8) == MAIN_PRIVATE_KEY) = false := by decide
                have b : ((1 : UInt8) == TEST_PRIVATE_KEY) = false := by decide
                simp [a, b] at hnet
            rw [if_pos hc, if_pos h1]
            simp only
            split <;> nofun
          · rw [if_neg hc]
            simp only
            split <;> nofun

theorem addressToPublicKeyHash_ne_panic (H : Bytes → Bytes) (s : List Char)
    (hf : ∀ q, decodeChk true H s ≠ .panic q) (q : String) :
    addressToPublicKeyHash true H s ≠ .panic q := by
  unfold addressToPublicKeyHash
  cases hs : decodeChk true H s with
  | err e => nofun
  | panic p => exact absurd hs (hf p)
  | ok d =>
    apply ne_panic_of_isPanic
    simp only [if_true, apply_ite Outcome.isPanic]
    simp only [Outcome.isPanic, ite_self]

/-- the number of base-58 digits of a byte string with non-zero first byte `x`, read off the powers of
    58 that enclose `x * 256 ^ b.length` and `(x + 1) * 256 ^ b.length` -/
theorem encode58_length_of_head (b : Bytes) (x : UInt8) (k : Nat) (hx : x.toNat ≠ 0)
    (h1 : 58 ^ k ≤ x.toNat * 256 ^ b.length) (h2 : (x.toNat + 1) * 256 ^ b.length ≤ 58 ^ (k + 1)) :
    (encode58 (x :: b)).length = k + 1 := by
  unfold encode58 conv
  have hlz : lz ((x :: b).map UInt8.toNat) = 0 := by
    simp only [List.map_cons]
    cases hxn : x.toNat with
    | zero => exact absurd hxn hx
    | succ n => rfl
  rw [hlz]
  simp only [List.replicate_zero, List.nil_append, toDigitsBE_length, List.map_cons]
  rw [valBE_cons]
  have hb := valBE_bytes_lt b
  simp only [List.length_map]
  apply toDigitsLE_length_eq 58 (by omega)
  · omega
  · have : (x.toNat + 1) * 256 ^ b.length = x.toNat * 256 ^ b.length + 256 ^ b.length := by
      rw [Nat.add_mul, Nat.one_mul]
    omega

end CG.Proofs.Base58
