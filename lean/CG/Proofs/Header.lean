import CG.Model.Header
import CG.Spec.Pow
import CG.Base.Lemmas
/-! Helper lemmas for C19. -/
namespace CG.Proofs.Header
open CG CG.Model.Header

theorem leToNat_snoc (init : Bytes) (d : UInt8) :
    leToNat (init ++ [d]) = leToNat init + 256 ^ init.length * d.toNat :=
  CG.leToNat_snoc init d

/-- comparing from the top byte = comparing the numbers whose most significant byte comes first:
    a difference in the top byte outweighs everything below it -/
theorem cmpFromTop_eq (a b : Bytes) (h : a.length = b.length) :
    cmpFromTop a b = compare (leToNat a.reverse) (leToNat b.reverse) := by
  induction a generalizing b with
  | nil =>
    cases b with
    | nil => rfl
    | cons _ _ => simp at h
  | cons x as ih =>
    cases b with
    | nil => simp at h
    | cons y bs =>
      simp only [List.length_cons, Nat.add_right_cancel_iff] at h
      have ha := leToNat_lt as.reverse
      have hb := leToNat_lt bs.reverse
      rw [cmpFromTop, List.reverse_cons, List.reverse_cons, leToNat_snoc, leToNat_snoc]
      simp only [List.length_reverse, ← h] at ha hb ⊢
      generalize 256 ^ as.length = P at *
      split
      · rename_i hgt
        have : P * (y.toNat + 1) ≤ P * x.toNat := Nat.mul_le_mul_left _ hgt
        exact (Nat.compare_eq_gt.mpr (by rw [Nat.mul_add] at this; omega)).symm
      · split
        · rename_i hlt
          have : P * (x.toNat + 1) ≤ P * y.toNat := Nat.mul_le_mul_left _ hlt
          exact (Nat.compare_eq_lt.mpr (by rw [Nat.mul_add] at this; omega)).symm
        · rw [ih bs h, show x.toNat = y.toNat by omega]
          simp only [Nat.compare_eq_ite_lt, Nat.add_lt_add_iff_right]

/-- `Hash256::cmp` on the stored (little-endian) byte order -/
theorem cmpFromTop_reverse (a b : Bytes) (h : a.length = b.length) :
    cmpFromTop a.reverse b.reverse = compare (leToNat a) (leToNat b) := by
  rw [cmpFromTop_eq _ _ (by simpa using h), List.reverse_reverse, List.reverse_reverse]

theorem leToNat_set (l : Bytes) (i : Nat) (x : UInt8) (h : i < l.length) :
    leToNat (l.set i x) + 256 ^ i * l[i].toNat = leToNat l + 256 ^ i * x.toNat := by
  induction l generalizing i with
  | nil => simp at h
  | cons y ys ih =>
    cases i with
    | zero =>
      simp only [List.set_cons_zero, leToNat, List.getElem_cons_zero, Nat.pow_zero, Nat.one_mul]
      omega
    | succ j =>
      have := ih j (by simpa using h)
      simp only [List.set_cons_succ, leToNat, List.getElem_cons_succ, Nat.pow_succ, Nat.mul_right_comm _ 256]
      omega

theorem leToNat_set_of_zero (l : Bytes) (i : Nat) (x : UInt8) (h : i < l.length) (h0 : l[i] = 0) :
    leToNat (l.set i x) = leToNat l + 256 ^ i * x.toNat := by
  have := leToNat_set l i x h
  rw [h0] at this
  simpa using this

/-- the integer value of the array built by `difficulty_target` (array length `n` generic): each of the
    three stores hits an entry that is still zero -/
theorem target_value (n e : Nat) (h3 : 3 ≤ e) (h32 : e ≤ n) (a b c : UInt8) :
    leToNat ((((List.replicate n (0:UInt8)).set (e - 1) c).set (e - 2) b).set (e - 3) a)
      = (a.toNat + 256 * b.toNat + 65536 * c.toNat) * 256 ^ (e - 3) := by
  obtain ⟨k, rfl⟩ : ∃ k, e = k + 3 := ⟨e - 3, by omega⟩
  rw [show k + 3 - 1 = k + 2 from rfl, show k + 3 - 2 = k + 1 from rfl, show k + 3 - 3 = k from rfl,
    leToNat_set_of_zero _ _ _ (by simp; omega) (by simp),
    leToNat_set_of_zero _ _ _ (by simp; omega) (by simp),
    leToNat_set_of_zero _ _ _ (by simp; omega) (by simp), leToNat_replicate_zero,
    Nat.pow_add, Nat.pow_succ]
  -- what remains is commutative-semiring arithmetic with `256 ^ k` as an atom
  grind

/-- the three stored bytes are the base-256 digits of the 24-bit mantissa -/
theorem mantissa_bytes (bits : Nat) :
    (UInt8.ofNat (bits % 256)).toNat + 256 * (UInt8.ofNat (bits / 2 ^ 8 % 256)).toNat +
      65536 * (UInt8.ofNat (bits / 2 ^ 16 % 256)).toNat = bits % 2 ^ 24 := by
  simp only [UInt8.toNat_ofNat', Nat.reducePow, Nat.mod_mod]
  rw [show 16777216 = 256 * (256 * 256) from rfl, Nat.mod_mul, Nat.mod_mul, Nat.div_div_eq_div_mul,
    Nat.mul_add, ← Nat.mul_assoc, Nat.add_assoc]

theorem insert_perm (x : Nat) (l : List Nat) : (Spec.Pow.insert x l).Perm (x :: l) := by
  induction l with
  | nil => simp [Spec.Pow.insert]
  | cons y ys ih =>
    simp only [Spec.Pow.insert]
    split
    · exact List.Perm.refl _
    · exact (List.Perm.cons y ih).trans (List.Perm.swap x y ys)

theorem isort_perm (l : List Nat) : (Spec.Pow.isort l).Perm l := by
  induction l with
  | nil => simp [Spec.Pow.isort]
  | cons x xs ih => exact (insert_perm x _).trans (List.Perm.cons x ih)

theorem insert_sorted (x : Nat) (l : List Nat) (h : l.Pairwise (· ≤ ·)) :
    (Spec.Pow.insert x l).Pairwise (· ≤ ·) := by
  induction l with
  | nil => simp [Spec.Pow.insert]
  | cons y ys ih =>
    simp only [Spec.Pow.insert]
    rw [List.pairwise_cons] at h
    split
    · rename_i hxy
      refine List.pairwise_cons.mpr ⟨?_, List.pairwise_cons.mpr h⟩
      intro z hz
      rcases List.mem_cons.mp hz with rfl | hz
      · exact hxy
      · exact Nat.le_trans hxy (h.1 z hz)
    · rename_i hxy
      refine List.pairwise_cons.mpr ⟨?_, ih h.2⟩
      intro z hz
      have := (insert_perm x ys).subset hz
      rcases List.mem_cons.mp this with rfl | hz'
      · omega
      · exact h.1 z hz'

theorem isort_sorted (l : List Nat) : (Spec.Pow.isort l).Pairwise (· ≤ ·) := by
  induction l with
  | nil => simp [Spec.Pow.isort]
  | cons x xs ih => exact insert_sorted x _ ih

theorem mergeSort_eq_isort (l : List Nat) :
    l.mergeSort (fun a b => decide (a ≤ b)) = Spec.Pow.isort l := by
  have hs : (l.mergeSort (fun a b => decide (a ≤ b))).Pairwise (fun a b => decide (a ≤ b) = true) :=
    List.pairwise_mergeSort (by intro a b c; simp; omega) (by intro a b; simp; omega) l
  have hp : (l.mergeSort (fun a b => decide (a ≤ b))).Perm (Spec.Pow.isort l) :=
    (List.mergeSort_perm l _).trans (isort_perm l).symm
  have hs' : (l.mergeSort (fun a b => decide (a ≤ b))).Pairwise (· ≤ ·) := by
    simpa using hs
  exact List.Perm.eq_of_pairwise (le := (· ≤ ·)) (by intro a b _ _ h1 h2; omega) hs' (isort_sorted l) hp

end CG.Proofs.Header
