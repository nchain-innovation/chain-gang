import CG.Model.Bloom
import CG.Spec.Bip37Bloom
import CG.Proofs.WireCodec
/-!
Helper lemmas for C20: byte-level bit facts, the loops of `add`/`contains` against the BIP-37
reference, the `var_int`/`filterload` codec.
-/
namespace CG.Proofs.Bloom
open CG CG.Model.Bloom
open CG.Spec.Bip37Bloom (getBit setBitAt position positions seed)

theorem bitMask_toNat (k : Nat) (hk : k < 8) : (bitMask k).toNat = 2 ^ k := by
  have : ∀ k : Fin 8, (bitMask k.val).toNat = 2 ^ k.val := by decide
  exact this ⟨k, hk⟩

theorem setBit_toNat (b : UInt8) (k : Nat) (hk : k < 8) : (setBit b k).toNat = b.toNat ||| 2 ^ k := by
  simp [setBit, bitMask_toNat k hk]

theorem setBit_eq (b : UInt8) (k : Nat) (hk : k < 8) :
    setBit b k = UInt8.ofNat (b.toNat ||| 2 ^ k) := by
  rw [← setBit_toNat b k hk]
  simp

theorem and_two_pow_eq_zero (a k : Nat) : a &&& 2 ^ k = 0 ↔ a.testBit k = false := by
  constructor
  · intro h
    have := congrArg (·.testBit k) h
    simpa [Nat.testBit_and, Nat.testBit_two_pow] using this
  · intro h
    apply Nat.eq_of_testBit_eq
    intro i
    rw [Nat.testBit_and, Nat.testBit_two_pow, Nat.zero_testBit]
    by_cases e : k = i
    · rw [← e, h, Bool.false_and]
    · rw [decide_eq_false e, Bool.and_false]

theorem bitClear_eq (b : UInt8) (k : Nat) (hk : k < 8) : bitClear b k = !(b.toNat.testBit k) := by
  have h := and_two_pow_eq_zero b.toNat k
  rw [← bitMask_toNat k hk, ← UInt8.toNat_and, ← UInt8.toNat_zero, UInt8.toNat_inj] at h
  unfold bitClear
  cases hb : b.toNat.testBit k <;> simp [h, hb]

theorem isEmpty_of_length_pos {flt : Bytes} (h : 0 < flt.length) : flt.isEmpty = false :=
  List.isEmpty_eq_false_iff.mpr (List.ne_nil_of_length_pos h)

theorem setBitAt_length (flt : Bytes) (idx : Nat) : (setBitAt flt idx).length = flt.length := by
  unfold setBitAt
  split <;> simp

theorem getBit_setBitAt (flt : Bytes) (idx j : Nat) (h : idx < 8 * flt.length) :
    getBit (setBitAt flt idx) j = (getBit flt j || decide (j = idx)) := by
  have hp : idx / 8 < flt.length := by omega
  have hk : idx % 8 < 8 := Nat.mod_lt _ (by decide)
  unfold setBitAt
  rw [List.getElem?_eq_getElem hp]
  simp only [getBit, List.getD_eq_getElem?_getD, List.getElem?_set]
  by_cases hj : idx / 8 = j / 8
  · have hp' : j / 8 < flt.length := by omega
    simp only [hj, if_true, hp', List.getElem?_eq_getElem hp', Option.getD_some]
    have hlt : flt[j / 8].toNat ||| 2 ^ (idx % 8) < 2 ^ 8 :=
      Nat.or_lt_two_pow flt[j / 8].toNat_lt (Nat.pow_lt_pow_right (by decide) hk)
    rw [UInt8.toNat_ofNat_of_lt' hlt, Nat.testBit_or, Nat.testBit_two_pow]
    congr 1
    have : (idx % 8 = j % 8) ↔ (j = idx) := by omega
    simp [this]
  · have : j ≠ idx := by intro e; subst e; exact hj rfl
    simp [hj, this]

theorem foldl_setBitAt_length (ps : List Nat) (flt : Bytes) :
    (ps.foldl setBitAt flt).length = flt.length := by
  induction ps generalizing flt with
  | nil => rfl
  | cons p ps ih => simp [List.foldl_cons, ih, setBitAt_length]

theorem getBit_foldl (ps : List Nat) (flt : Bytes) (j : Nat) (h : ∀ p ∈ ps, p < 8 * flt.length) :
    getBit (ps.foldl setBitAt flt) j = (getBit flt j || decide (j ∈ ps)) := by
  induction ps generalizing flt with
  | nil => simp
  | cons p ps ih =>
    rw [List.foldl_cons, ih]
    · rw [getBit_setBitAt _ _ _ (h p (by simp))]
      simp [Bool.or_assoc]
    · intro q hq
      rw [setBitAt_length]
      exact h q (by simp [hq])

theorem seedOf_eq (i tweak : Nat) : seedOf i tweak = seed i tweak := by
  unfold seedOf seed
  omega

/-- `len < 2 ^ 29` is where `len as u32 * 8` still fits a `u32`: below it the two build profiles
    (`dbg`: overflow checks on) compute the same modulus -/
theorem modulus_eq (dbg : Bool) (len : Nat) (hl : len < 2 ^ 29) : modulus dbg len = .ok (8 * len) := by
  unfold modulus
  have : len % 2 ^ 32 = len := Nat.mod_eq_of_lt (by omega)
  simp only [this]
  rw [if_pos (by omega)]
  congr 1
  omega

theorem bitIndex_eq (H : HashFn) (dbg : Bool) (len tweak : Nat) (data : Bytes) (i : Nat)
    (h0 : 0 < len) (hl : len < 2 ^ 29) :
    bitIndex H dbg len tweak data i = .ok (position H (8 * len) tweak data i) := by
  unfold bitIndex
  rw [modulus_eq dbg len hl]
  simp only
  rw [if_neg (by omega), seedOf_eq]
  rfl

theorem position_lt (H : HashFn) (n tweak : Nat) (data : Bytes) (i : Nat) (h : 0 < n) :
    position H n tweak data i < n := Nat.mod_lt _ h

theorem addStep_eq (H : HashFn) (dbg : Bool) (tweak : Nat) (data flt : Bytes) (i : Nat)
    (h0 : 0 < flt.length) (hl : flt.length < 2 ^ 29) :
    addStep H dbg tweak data flt i = .ok (setBitAt flt (position H (8 * flt.length) tweak data i)) := by
  unfold addStep
  rw [bitIndex_eq H dbg _ tweak data i h0 hl]
  have hp := position_lt H (8 * flt.length) tweak data i (by omega)
  have hq : position H (8 * flt.length) tweak data i / 8 < flt.length := by omega
  simp only [setBitAt, List.getElem?_eq_getElem hq]
  rw [setBit_eq _ _ (Nat.mod_lt _ (by decide))]

theorem addLoop_eq (H : HashFn) (dbg : Bool) (tweak : Nat) (data : Bytes) (k i : Nat) (flt : Bytes)
    (h0 : 0 < flt.length) (hl : flt.length < 2 ^ 29) :
    addLoop H dbg tweak data k i flt =
      .ok (((List.range' i k).map (position H (8 * flt.length) tweak data)).foldl setBitAt flt) := by
  induction k generalizing i flt with
  | zero => simp [addLoop]
  | succ k ih =>
    unfold addLoop
    rw [addStep_eq H dbg tweak data flt i h0 hl]
    simp only
    rw [ih (i + 1) _ (by rw [setBitAt_length]; exact h0) (by rw [setBitAt_length]; exact hl)]
    simp [List.range'_succ, setBitAt_length]

theorem getBit_eq_getElem (flt : Bytes) (j : Nat) (h : j / 8 < flt.length) :
    getBit flt j = flt[j / 8].toNat.testBit (j % 8) := by
  simp [getBit, List.getD_eq_getElem?_getD, List.getElem?_eq_getElem h]

theorem containsLoop_eq (H : HashFn) (dbg : Bool) (tweak : Nat) (data flt : Bytes) (k i : Nat)
    (h0 : 0 < flt.length) (hl : flt.length < 2 ^ 29) :
    containsLoop H dbg tweak data flt k i =
      .ok (((List.range' i k).map (position H (8 * flt.length) tweak data)).all (getBit flt)) := by
  induction k generalizing i with
  | zero => simp [containsLoop]
  | succ k ih =>
    unfold containsLoop
    rw [bitIndex_eq H dbg _ tweak data i h0 hl]
    have hp := position_lt H (8 * flt.length) tweak data i (by omega)
    have hq : position H (8 * flt.length) tweak data i / 8 < flt.length := by omega
    simp only [List.getElem?_eq_getElem hq]
    rw [bitClear_eq _ _ (Nat.mod_lt _ (by decide)), ih (i + 1), ← getBit_eq_getElem flt _ hq]
    simp only [List.range'_succ, List.map_cons, List.all_cons]
    cases getBit flt (position H (8 * flt.length) tweak data i) <;> simp

theorem add_eq_spec (H : HashFn) (dbg : Bool) (f : BloomFilter) (data : Bytes)
    (hl : f.filter.length < 2 ^ 29) :
    add H dbg f data =
      .ok { f with filter := Spec.Bip37Bloom.insert H f.filter f.numHashFuncs f.tweak data } := by
  unfold add addWith Spec.Bip37Bloom.insert
  by_cases he : f.filter = []
  · cases f with
    | mk flt n t =>
      simp only at he
      subst he
      simp
  · have h0 : 0 < f.filter.length := List.length_pos_iff.mpr he
    simp only [isEmpty_of_length_pos h0, Bool.and_false, Bool.false_eq_true, if_false]
    rw [addLoop_eq H dbg f.tweak data _ 0 f.filter h0 hl]
    simp [positions, List.range_eq_range']

theorem contains_eq_spec (H : HashFn) (dbg : Bool) (f : BloomFilter) (data : Bytes)
    (hl : f.filter.length < 2 ^ 29) :
    contains H dbg f data =
      .ok (Spec.Bip37Bloom.contains H f.filter f.numHashFuncs f.tweak data) := by
  unfold contains containsWith Spec.Bip37Bloom.contains
  by_cases he : f.filter = []
  · simp [he]
  · have h0 : 0 < f.filter.length := List.length_pos_iff.mpr he
    simp only [isEmpty_of_length_pos h0, Bool.and_false, Bool.false_eq_true, if_false]
    rw [containsLoop_eq H dbg f.tweak data f.filter _ 0 h0 hl]
    simp [positions, List.range_eq_range']

theorem positions_lt (H : HashFn) (n nHash tweak : Nat) (data : Bytes) (h : 0 < n) :
    ∀ p ∈ positions H n nHash tweak data, p < n := by
  intro p hp
  simp only [positions, List.mem_map] at hp
  obtain ⟨i, _, rfl⟩ := hp
  exact position_lt H n tweak data i h

theorem insert_length (H : HashFn) (flt : Bytes) (n tweak : Nat) (data : Bytes) :
    (Spec.Bip37Bloom.insert H flt n tweak data).length = flt.length := by
  unfold Spec.Bip37Bloom.insert
  split
  · rfl
  · exact foldl_setBitAt_length _ _

theorem getBit_insert (H : HashFn) (flt : Bytes) (n tweak : Nat) (data : Bytes) (j : Nat)
    (h0 : 0 < flt.length) :
    getBit (Spec.Bip37Bloom.insert H flt n tweak data) j =
      (getBit flt j || decide (j ∈ positions H (8 * flt.length) n tweak data)) := by
  unfold Spec.Bip37Bloom.insert
  simp only [isEmpty_of_length_pos h0, Bool.false_eq_true, if_false]
  exact getBit_foldl _ _ _ (positions_lt H _ n tweak data (by omega))

theorem getBit_insert_mono (H : HashFn) (flt : Bytes) (n tweak : Nat) (data : Bytes) (j : Nat)
    (h : getBit flt j = true) : getBit (Spec.Bip37Bloom.insert H flt n tweak data) j = true := by
  by_cases h0 : 0 < flt.length
  · rw [getBit_insert H flt n tweak data j h0, h]
    rfl
  · have : flt = [] := List.eq_nil_of_length_eq_zero (by omega)
    subst this
    simpa [Spec.Bip37Bloom.insert] using h

theorem addAll_bits (H : HashFn) (dbg : Bool) (ds : List Bytes) (f : BloomFilter)
    (hl : f.filter.length < 2 ^ 29) :
    ∃ f2, addAll H dbg f ds = .ok f2 ∧ f2.filter.length = f.filter.length ∧
      f2.numHashFuncs = f.numHashFuncs ∧ f2.tweak = f.tweak ∧
      (0 < f.filter.length → ∀ j, getBit f2.filter j =
        (getBit f.filter j ||
          ds.any (fun d => decide (j ∈ positions H (8 * f.filter.length) f.numHashFuncs f.tweak d)))) := by
  induction ds generalizing f with
  | nil => exact ⟨f, rfl, rfl, rfl, rfl, by simp⟩
  | cons d ds ih =>
    have ld := insert_length H f.filter f.numHashFuncs f.tweak d
    obtain ⟨f2, e, l2, n2, t2, b2⟩ :=
      ih { f with filter := Spec.Bip37Bloom.insert H f.filter f.numHashFuncs f.tweak d }
        (by simp only [ld]; exact hl)
    simp only at l2 n2 t2 b2
    refine ⟨f2, ?_, by rw [l2, ld], n2, t2, fun h0 j => ?_⟩
    · simp only [addAll]
      rw [add_eq_spec H dbg f d hl]
      exact e
    · rw [b2 (by rw [ld]; exact h0) j, getBit_insert H _ _ _ d j h0, ld, List.any_cons, Bool.or_assoc]

theorem contains_congr (H : HashFn) (dbg : Bool) (f g : BloomFilter) (q : Bytes)
    (hl : f.filter.length < 2 ^ 29) (hlen : g.filter.length = f.filter.length)
    (hn : g.numHashFuncs = f.numHashFuncs) (ht : g.tweak = f.tweak)
    (hb : ∀ j, getBit g.filter j = getBit f.filter j) :
    contains H dbg g q = contains H dbg f q := by
  rw [contains_eq_spec H dbg f q hl, contains_eq_spec H dbg g q (by rw [hlen]; exact hl)]
  have he : g.filter.isEmpty = f.filter.isEmpty := by
    rw [Bool.eq_iff_iff, List.isEmpty_iff_length_eq_zero, List.isEmpty_iff_length_eq_zero, hlen]
  unfold Spec.Bip37Bloom.contains
  rw [he, hlen, hn, ht, funext hb]

theorem ceilDiv_spec (n : Int) (d : Nat) :
    n ≤ ceilDiv n d * ((d : Int) + 1) ∧ (ceilDiv n d - 1) * ((d : Int) + 1) < n := by
  unfold ceilDiv
  have hpos : (0 : Int) < (d : Int) + 1 := by omega
  have h1 := Int.ediv_mul_le (-n) (Int.ne_of_gt hpos)
  have h2 := Int.lt_ediv_add_one_mul_self (-n) hpos
  rw [Int.add_mul] at h2
  rw [Int.sub_mul, Int.neg_mul]
  omega

theorem ceilDiv_le (n : Int) (d m : Nat) (h : n ≤ (m : Int) * ((d : Int) + 1)) : ceilDiv n d ≤ m := by
  unfold ceilDiv
  have hpos : (0 : Int) < (d : Int) + 1 := by omega
  have : -(m : Int) ≤ (-n) / ((d : Int) + 1) := by
    rw [Int.le_ediv_iff_mul_le hpos, Int.neg_mul]
    omega
  omega

theorem ceilDiv_int (m : Nat) : ceilDiv m 0 = m := by
  simp [ceilDiv]

theorem ceilAsUsize_fin_le (n : Int) (d m : Nat) (h : ceilDiv n d ≤ m) :
    (F64v.fin n d).ceilAsUsize ≤ m := by
  simp only [F64v.ceilAsUsize]
  split
  · omega
  · split <;> omega

theorem minConst_ceil_le (x : F64v) (m : Nat) : (x.minConst m).ceilAsUsize ≤ m := by
  have hfin : (F64v.fin m 0).ceilAsUsize ≤ m :=
    ceilAsUsize_fin_le m 0 m (by rw [ceilDiv_int]; exact Int.le_refl _)
  cases x with
  | nan => exact hfin
  | posInf => exact hfin
  | negInf => simp [F64v.minConst, F64v.ceilAsUsize]
  | fin n d =>
    simp only [F64v.minConst]
    by_cases h : n ≤ (m : Int) * ((d : Int) + 1)
    · rw [if_pos h]
      exact ceilAsUsize_fin_le n d m (ceilDiv_le n d m h)
    · rw [if_neg h]
      exact hfin

/-! `readLE`, `varIntRead`, `varIntWrite` model the same Rust functions as the wire codec's `uLE` and
`varint`; their laws are those of `Model.Wire.uLE_lawful` and `Model.Wire.varint_lawful`. -/

open CG.Model.Wire (uLE varint uLE_lawful varint_lawful)

theorem readLE_eq_uLE (n : Nat) : readLE n = (uLE n).dec := rfl

theorem varIntWrite_eq_varint (n : Nat) : varIntWrite n = varint.enc n := by
  simp only [varIntWrite, varint]
  by_cases h : n ≤ 252
  · simp [h, natToLEn, Nat.mod_eq_of_lt (show n < 256 by omega)]
  · simp [h]

theorem varIntRead_eq_varint (b : Bytes) : varIntRead b = varint.dec b := by
  cases b with
  | nil => rfl
  | cons x r =>
    have hd : Model.Wire.u8.dec (x :: r) = .ok (x.toNat, r) := by
      simp [Model.Wire.u8, uLE, takeExact, leToNat]
    simp only [varIntRead, varint, hd, Outcome.bind, readLE_eq_uLE]
    rfl

theorem readLE_append (n x : Nat) (r : Bytes) (hx : x < 256 ^ n) :
    readLE n (natToLEn n x ++ r) = .ok (x, r) := (uLE_lawful n).dec_enc x r hx

theorem readLE_ok {n : Nat} {b r : Bytes} {x : Nat} (h : readLE n b = .ok (x, r)) :
    x < 256 ^ n ∧ ∃ p, b = p ++ r :=
  ⟨(uLE_lawful n).dec_wf b x r h, (uLE_lawful n).dec_suffix b x r h⟩

theorem varIntRead_write (n : Nat) (r : Bytes) (h : n < 2 ^ 64) :
    varIntRead (varIntWrite n ++ r) = .ok (n, r) := by
  rw [varIntRead_eq_varint, varIntWrite_eq_varint]
  exact varint_lawful.dec_enc n r h

theorem varIntSize_eq (n : Nat) : (varIntWrite n).length = varIntSize n := by
  unfold varIntWrite varIntSize
  split
  · rfl
  · split
    · simp
    · split <;> simp

theorem flSize_eq (m : FilterLoad) : (flWrite m).length = flSize m := by
  simp only [flWrite, flSize, varIntSize_eq, List.length_append, natToLEn_length, List.length_cons,
    List.length_nil]

theorem flRead_write (m : FilterLoad) (rest : Bytes) (hlen : m.bloom.filter.length < 2 ^ 64)
    (hn : m.bloom.numHashFuncs < 2 ^ 32) (ht : m.bloom.tweak < 2 ^ 32) (hf : m.flags < 256) :
    flRead (flWrite m ++ rest) = .ok (m, rest) := by
  obtain ⟨⟨flt, n, tw⟩, fl⟩ := m
  simp only at hlen hn ht hf
  unfold flRead flWrite
  simp only [List.append_assoc]
  rw [varIntRead_write _ _ hlen]
  simp only
  rw [takeExact_append]
  simp only
  rw [readLE_append 4 n _ (by omega)]
  simp only
  rw [readLE_append 4 tw _ (by omega)]
  simp [UInt8.toNat_ofNat_of_lt' hf]

theorem flRead_ok {b r : Bytes} {m : FilterLoad} (h : flRead b = .ok (m, r)) :
    m.bloom.filter.length < b.length ∧ m.bloom.numHashFuncs < 2 ^ 32 ∧ m.bloom.tweak < 2 ^ 32 ∧
      m.flags < 256 := by
  unfold flRead at h
  -- one `split` per field, in wire order; in every branch but the first a read has failed and `h` is absurd
  split at h
  next n r1 h1 =>          -- the length prefix
    rw [varIntRead_eq_varint] at h1
    obtain ⟨p1, rfl⟩ := varint_lawful.dec_suffix _ _ _ h1
    split at h
    next flt r2 h2 =>      -- the bit field
      obtain ⟨rfl, _⟩ := takeExact_some h2
      split at h
      next nh r3 h3 =>     -- `num_hash_funcs`
        obtain ⟨hnh, p3, rfl⟩ := readLE_ok h3
        split at h
        next tw r4 h4 =>   -- `tweak`
          obtain ⟨htw, p4, rfl⟩ := readLE_ok h4
          split at h       -- `flags`
          · injection h with h
            simp only [Prod.mk.injEq] at h
            obtain ⟨rfl, _⟩ := h
            -- the flags byte alone makes the input longer than the bit field
            refine ⟨?_, by omega, by omega, UInt8.toNat_lt _⟩
            simp only [List.length_append, List.length_cons]
            omega
          · simp at h
        all_goals simp at h
      all_goals simp at h
    all_goals simp at h
  all_goals simp at h

theorem readLE_ne_panic (n : Nat) (b : Bytes) (s : String) : readLE n b ≠ .panic s := by
  unfold readLE
  split <;> simp

theorem varIntRead_ne_panic (b : Bytes) (s : String) : varIntRead b ≠ .panic s := by
  cases b with
  | nil => simp [varIntRead]
  | cons x xs =>
    simp only [varIntRead]
    split
    · exact readLE_ne_panic _ _ _
    · split
      · exact readLE_ne_panic _ _ _
      · split
        · exact readLE_ne_panic _ _ _
        · simp

theorem flRead_ne_panic (b : Bytes) (s : String) : flRead b ≠ .panic s := by
  unfold flRead
  -- a `panic` of `flRead` is a `panic` of one of its three integer reads
  split
  next =>
    split
    next =>
      split
      next =>
        split
        next => split <;> simp
        next => simp
        next h => exact absurd h (readLE_ne_panic _ _ _)
      next => simp
      next h => exact absurd h (readLE_ne_panic _ _ _)
    next => simp
  next => simp
  next h => exact absurd h (varIntRead_ne_panic _ _)

end CG.Proofs.Bloom
