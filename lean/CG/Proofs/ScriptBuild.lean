import CG.Model.ScriptBuild
import CG.Model.ScriptText
import CG.Spec.ScriptBuild
import CG.Proofs.InterpTotal
import CG.Proofs.ScriptNum
import CG.Base.Lemmas
/-!
Helper lemmas for C16: the five length classes of `appendData` (empty, direct, PUSHDATA1/2/4) (shape, length, agreement with the reference
push), what `nextOp` and `decodeOp` do on a push opcode, and the P2PKH templates.
-/
namespace CG.Proofs.ScriptBuild
open CG CG.Model.ScriptNum CG.Model.Interp CG.Model.ScriptBuild

theorem byteAt_cons_succ (b : UInt8) (r : Bytes) (i : Nat) : byteAt (b :: r) (i + 1) = byteAt r i := rfl

theorem appendData_empty (s d : Bytes) (h : d.length = 0) : appendData s d = s ++ [0] := by
  simp [appendData, h]

theorem appendData_direct (s d : Bytes) (h1 : 1 ≤ d.length) (h2 : d.length ≤ 75) :
    appendData s d = s ++ UInt8.ofNat d.length :: d := by
  unfold appendData
  simp only []
  rw [if_neg (by omega), if_pos h2]

theorem appendData_pd1 (s d : Bytes) (h1 : 76 ≤ d.length) (h2 : d.length ≤ 255) :
    appendData s d = s ++ 76 :: (natToLEn 1 d.length ++ d) := by
  unfold appendData
  simp only []
  rw [if_neg (by omega), if_neg (by omega), if_pos h2]

theorem appendData_pd2 (s d : Bytes) (h1 : 256 ≤ d.length) (h2 : d.length ≤ 65535) :
    appendData s d = s ++ 77 :: (natToLEn 2 d.length ++ d) := by
  unfold appendData
  simp only []
  rw [if_neg (by omega), if_neg (by omega), if_neg (by omega), if_pos h2]

theorem appendData_pd4 (s d : Bytes) (h1 : 65536 ≤ d.length) :
    appendData s d = s ++ 78 :: (natToLEn 4 d.length ++ d) := by
  unfold appendData
  simp only []
  rw [if_neg (by omega), if_neg (by omega), if_neg (by omega), if_neg (by omega)]

theorem pushClass (n : Nat) :
    n = 0 ∨ (1 ≤ n ∧ n ≤ 75) ∨ (76 ≤ n ∧ n ≤ 255) ∨ (256 ≤ n ∧ n ≤ 65535) ∨ 65536 ≤ n := by omega

theorem appendData_prefix (s d : Bytes) : appendData s d = s ++ appendData [] d := by
  rcases pushClass d.length with h | ⟨h1, h2⟩ | ⟨h1, h2⟩ | ⟨h1, h2⟩ | h1
  · rw [appendData_empty s d h, appendData_empty [] d h]; rfl
  · rw [appendData_direct s d h1 h2, appendData_direct [] d h1 h2]; rfl
  · rw [appendData_pd1 s d h1 h2, appendData_pd1 [] d h1 h2]; rfl
  · rw [appendData_pd2 s d h1 h2, appendData_pd2 [] d h1 h2]; rfl
  · rw [appendData_pd4 s d h1, appendData_pd4 [] d h1]; rfl

theorem appendData_eq_spec (d : Bytes) (h : d.length < 4294967296) :
    appendData [] d = Spec.ScriptBuild.minimalPush d := by
  unfold Spec.ScriptBuild.minimalPush
  dsimp only
  rcases pushClass d.length with h0 | ⟨h1, h2⟩ | ⟨h1, h2⟩ | ⟨h1, h2⟩ | h1
  · rw [appendData_empty [] d h0, if_pos h0]; rfl
  · rw [appendData_direct [] d h1 h2, if_neg (by omega), if_pos (by omega)]; rfl
  · rw [appendData_pd1 [] d h1 h2, if_neg (by omega), if_neg (by omega), if_pos (by omega)]
    simp only [natToLEn, Nat.mod_eq_of_lt (show d.length < 256 by omega)]; rfl
  · rw [appendData_pd2 [] d h1 h2, if_neg (by omega), if_neg (by omega), if_neg (by omega), if_pos (by omega)]
    simp only [natToLEn, Nat.mod_eq_of_lt (show d.length / 256 < 256 by omega)]; rfl
  · rw [appendData_pd4 [] d h1, if_neg (by omega), if_neg (by omega), if_neg (by omega), if_neg (by omega)]
    simp only [natToLEn, Nat.div_div_eq_div_mul, Nat.mod_eq_of_lt (show d.length / (256 * 256 * 256) < 256 by omega)]; rfl

theorem appendData_length (s d : Bytes) :
    (appendData s d).length = s.length + d.length + Spec.ScriptBuild.overhead d.length := by
  unfold Spec.ScriptBuild.overhead
  rcases pushClass d.length with h | ⟨h1, h2⟩ | ⟨h1, h2⟩ | ⟨h1, h2⟩ | h1
  · rw [appendData_empty s d h, if_pos (by omega), h, List.length_append]; rfl
  · rw [appendData_direct s d h1 h2, if_pos (by omega), List.length_append, List.length_cons]; omega
  · rw [appendData_pd1 s d h1 h2, if_neg (by omega), if_pos (by omega)]
    simp only [List.length_append, List.length_cons, natToLEn_length]; omega
  · rw [appendData_pd2 s d h1 h2, if_neg (by omega), if_neg (by omega), if_pos (by omega)]
    simp only [List.length_append, List.length_cons, natToLEn_length]; omega
  · rw [appendData_pd4 s d h1, if_neg (by omega), if_neg (by omega), if_neg (by omega)]
    simp only [List.length_append, List.length_cons, natToLEn_length]; omega

theorem overhead_bounds (n : Nat) :
    1 ≤ Spec.ScriptBuild.overhead n ∧ Spec.ScriptBuild.overhead n ≤ 5 ∧ (n ≤ 75 → Spec.ScriptBuild.overhead n = 1) ∧
    (n ≤ 255 → Spec.ScriptBuild.overhead n ≤ 2) ∧ (n ≤ 65535 → Spec.ScriptBuild.overhead n ≤ 3) := by
  unfold Spec.ScriptBuild.overhead
  rcases pushClass n with h | ⟨h1, h2⟩ | ⟨h1, h2⟩ | ⟨h1, h2⟩ | h1
  · rw [if_pos (by omega)]; omega
  · rw [if_pos (by omega)]; omega
  · rw [if_neg (by omega), if_pos (by omega)]; omega
  · rw [if_neg (by omega), if_neg (by omega), if_pos (by omega)]; omega
  · rw [if_neg (by omega), if_neg (by omega), if_neg (by omega)]; omega

theorem nextOp_push (s : Bytes) (i : Nat) (hi : i < s.length) (h1 : 1 ≤ byteAt s i) (h2 : byteAt s i ≤ 75)
    (h3 : i + 1 + byteAt s i ≤ s.length) : nextOp i s = i + 1 + byteAt s i := by
  unfold nextOp
  rw [if_neg (by omega)]
  simp only []
  rw [if_pos ⟨h1, h2⟩]
  simp only []
  rw [if_neg (by omega)]

theorem decodeOp_push (b : UInt8) (h1 : 1 ≤ b.toNat) (h2 : b.toNat ≤ 75) : decodeOp b = .push b.toNat := by
  unfold decodeOp
  exact (if_neg (by omega)).trans (if_pos h2)

theorem take_drop_mid (a d r : Bytes) : ((a ++ d ++ r).drop a.length).take d.length = d :=
  take_drop_append a d r

theorem pushSlice_ok {σ : Type} (script : Bytes) (off len : Nat) (st : St σ) (h : off + len ≤ script.length) :
    pushSlice script off len st = .ok (false, { st with stack := ((script.drop off).take len) :: st.stack }) := by
  unfold pushSlice
  rw [if_neg (by omega)]

theorem encodeNum_length {v : Int} {b : Bytes} (h : encodeNum v = .ok b) : b.length ≤ 4 := by
  unfold encodeNum at h
  by_cases c0 : v < -2147483647 ∨ v > 2147483647
  · rw [if_pos c0] at h; cases h
  rw [if_neg c0] at h
  dsimp only at h
  by_cases c1 : v.natAbs = 0
  · rw [if_pos c1] at h; cases h; simp
  by_cases c2 : v.natAbs < 128
  · rw [if_neg c1, if_pos c2] at h; cases h; simp
  by_cases c3 : v.natAbs < 32768
  · rw [if_neg c1, if_neg c2, if_pos c3] at h; cases h; simp
  by_cases c4 : v.natAbs < 8388608
  · rw [if_neg c1, if_neg c2, if_neg c3, if_pos c4] at h; cases h; simp
  · rw [if_neg c1, if_neg c2, if_neg c3, if_neg c4] at h; cases h; simp

theorem encodeNum_out_of_range (v : Int) (h : v < -2147483647 ∨ v > 2147483647) : encodeNum v = .err "ScriptError" := by
  unfold encodeNum; rw [if_pos h]

theorem createLockScript_eq (h : Bytes) (hl : h.length = 20) :
    createLockScript h = 118 :: 169 :: 20 :: (h ++ [136, 172]) := by
  unfold createLockScript
  rw [appendData_direct _ _ (by omega) (by omega), hl]
  rfl

theorem lock_recognised (h : Bytes) (hl : h.length = 20) :
    checkLockScript (createLockScript h) = true ∧ extractPubkeyhash (createLockScript h) = .ok h ∧
    ∀ h' : Bytes, checkLockScriptAddr h' (createLockScript h) = .ok (decide (h = h')) := by
  rw [createLockScript_eq h hl]
  -- bytes 0–2 lie in the literal prefix, bytes 23 and 24 behind `h` because `h.length = 20`
  have hc : checkLockScript (118 :: 169 :: 20 :: (h ++ [136, 172])) = true := by
    simp [checkLockScript, hl, OP_DUP, OP_HASH160, OP_EQUALVERIFY, OP_CHECKSIG, List.getD_eq_getElem?_getD]
  refine ⟨hc, ?_, ?_⟩
  · simp [extractPubkeyhash, hc, hl]
  · intro h'
    simp [checkLockScriptAddr, hc, hl]

theorem createUnlockScript_eq (sig pk : Bytes) (h1 : 1 ≤ sig.length) (h2 : sig.length ≤ 75)
    (hp : pk.length = 33) :
    createUnlockScript sig pk = (UInt8.ofNat sig.length :: sig) ++ (33 :: pk) := by
  unfold createUnlockScript
  rw [appendData_prefix, appendData_direct [] sig h1 h2, appendData_direct [] pk (by omega) (by omega), hp]
  rfl

/-- the facts about the script `<sig> <pk>` that the recognisers look at -/
theorem unlock_shape (sig pk : Bytes) (h1 : 1 ≤ sig.length) (h2 : sig.length ≤ 75) (hp : pk.length = 33) :
    let S := (UInt8.ofNat sig.length :: sig) ++ (33 :: pk)
    S.length = sig.length + 35 ∧ byteAt S 0 = sig.length ∧ nextOp 0 S = 1 + sig.length ∧
    byteAt S (1 + sig.length) = 33 ∧ nextOp (1 + sig.length) S = S.length ∧
    S.drop (1 + sig.length + 1) = pk := by
  intro S
  have hlen : S.length = sig.length + 35 := by simp [S, hp]
  have hb0 : byteAt S 0 = sig.length := by
    simp [S, byteAt, toNat_ofNat_lt (show sig.length < 256 by omega)]
  have hn0 : nextOp 0 S = 1 + sig.length := by
    rw [nextOp_push S 0 (by omega) (by omega) (by omega) (by omega), hb0]
  have hbi : byteAt S (1 + sig.length) = 33 := by
    rw [Nat.add_comm]
    exact congrArg UInt8.toNat (getD_append_cons (UInt8.ofNat sig.length :: sig) 33 pk 0)
  have hni : nextOp (1 + sig.length) S = S.length := by
    rw [nextOp_push S _ (by omega) (by omega) (by omega) (by omega), hbi]; omega
  refine ⟨hlen, hb0, hn0, hbi, hni, ?_⟩
  have : S = (UInt8.ofNat sig.length :: sig ++ [33]) ++ pk := by simp [S]
  rw [this]
  exact List.drop_left' (by simp; omega)

theorem unlock_recognised (sig pk : Bytes) (h1 : 9 ≤ sig.length) (h2 : sig.length ≤ 73) (hp : pk.length = 33) :
    checkUnlockScript (createUnlockScript sig pk) = true ∧
    extractPubkey (createUnlockScript sig pk) = .ok pk ∧
    ∀ pk' : Bytes, checkUnlockScriptAddr pk' (createUnlockScript sig pk) = .ok (decide (pk = pk')) := by
  rw [createUnlockScript_eq sig pk (by omega) (by omega) hp]
  obtain ⟨hlen, hb0, hn0, hbi, hni, hdrop⟩ := unlock_shape sig pk (by omega) (by omega) hp
  generalize (UInt8.ofNat sig.length :: sig) ++ (33 :: pk) = S at *
  have hne : S.isEmpty = false := by
    cases S with
    | nil => simp at hlen
    | cons _ _ => rfl
  have hc : checkUnlockScriptW 9 S = true := by
    unfold checkUnlockScriptW
    rw [if_neg (by rw [hb0, hne]; simp; omega)]
    simp only [hn0]
    rw [if_neg (by rw [hbi, hlen]; simp; omega), hni]
    simp
  refine ⟨hc, ?_, ?_⟩
  · unfold extractPubkey extractPubkeyW
    simp only [hc, hn0, Bool.not_true, Bool.false_eq_true, if_false]
    rw [if_neg (by rw [hlen]; omega), hdrop]
  · intro pk'
    unfold checkUnlockScriptAddr checkUnlockScriptAddrW
    simp only [hc, hn0, Bool.not_true, Bool.false_eq_true, if_false]
    rw [if_neg (by rw [hlen]; omega), hdrop]

/-- the pinned window: a signature push of 70 bytes or fewer is not recognised -/
theorem unlock_pinned_rejects (sig pk : Bytes) (h2 : sig.length ≤ 70) :
    checkUnlockScriptPinned (createUnlockScript sig pk) = false ∧
    extractPubkeyW 71 (createUnlockScript sig pk) = .err "BadData" := by
  have hb : byteAt (createUnlockScript sig pk) 0 < 71 := by
    unfold createUnlockScript
    rw [appendData_prefix]
    by_cases h0 : sig.length = 0
    · rw [appendData_empty _ _ h0]; simp [byteAt]
    · rw [appendData_direct _ _ (by omega) (by omega)]
      simp [byteAt, toNat_ofNat_lt (show sig.length < 256 by omega)]; omega
  have hc : checkUnlockScriptW 71 (createUnlockScript sig pk) = false := by
    unfold checkUnlockScriptW
    rw [if_pos (Or.inr (Or.inl hb))]
  exact ⟨hc, by simp [extractPubkeyW, hc]⟩

/-- a recognised unlock script has its second instruction inside the script, so `[i + 1..]` is in range -/
theorem checkUnlockScriptW_inside {lo : Nat} {s : Bytes} (hc : checkUnlockScriptW lo s = true) :
    nextOp 0 s < s.length := by
  unfold checkUnlockScriptW at hc
  split at hc
  · cases hc
  · dsimp only at hc
    split at hc
    · cases hc
    · omega

theorem addr_ne_panic (lo : Nat) (pk s : Bytes) (p : String) : checkUnlockScriptAddrW lo pk s ≠ .panic p := by
  unfold checkUnlockScriptAddrW
  split
  · exact fun e => nomatch e
  · rename_i hc
    rw [if_neg (by have := checkUnlockScriptW_inside (by simpa using hc); omega)]
    exact fun e => nomatch e

theorem extract_ne_panic (lo : Nat) (s : Bytes) (p : String) : extractPubkeyW lo s ≠ .panic p := by
  unfold extractPubkeyW
  split
  · exact fun e => nomatch e
  · rename_i hc
    rw [if_neg (by have := checkUnlockScriptW_inside (by simpa using hc); omega)]
    exact fun e => nomatch e

end CG.Proofs.ScriptBuild
