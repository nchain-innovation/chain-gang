import CG.Proofs.ScriptBuild
/-!
Evaluation of pushes: the interpreter model evaluates `appendData` applied repeatedly — every push at
whatever offset it lands — to exactly the data, first datum at the bottom.  One push and a number push
are the one-element case.
-/
namespace CG.Proofs.ScriptBuild
open CG CG.Model.ScriptNum CG.Model.Interp CG.Model.ScriptBuild

section multi
variable {σ : Type}

/-- what one push instruction does, wherever it stands -/
structure PushStep (H : Hashes) (C : Checker σ) (pg : Bool) (script : Bytes) (i len : Nat) (d : Bytes) : Prop where
  inside : i < script.length
  exec : ∀ st : St σ, exec H C pg script i (decodeOp (script.getD i 0)) st = .ok (false, { st with stack := d :: st.stack })
  next : nextOp i script = i + len

/-- where a push instruction finds its data: behind the header `hdr`, wherever the instruction stands -/
theorem pushSlice_mid (pre hdr d post : Bytes) (st : St σ) :
    pushSlice (pre ++ (hdr ++ (d ++ post))) (pre.length + hdr.length) d.length st
      = .ok (false, { st with stack := d :: st.stack }) := by
  have hd := take_drop_append (pre ++ hdr) d post
  rw [List.append_assoc, List.append_assoc, List.length_append] at hd
  rw [pushSlice_ok _ _ _ _ (by simp only [List.length_append]; omega), hd]

theorem step_empty (H : Hashes) (C : Checker σ) (pg : Bool) (pre post : Bytes) :
    PushStep H C pg (pre ++ (0 :: post)) pre.length 1 [] := by
  refine ⟨by simp, fun st => ?_, ?_⟩
  · rw [getD_append_cons]
    rfl
  · exact nextOp_single (by simp) (Or.inl (congrArg UInt8.toNat (getD_append_cons pre 0 post 0)))

theorem step_direct (H : Hashes) (C : Checker σ) (pg : Bool) (pre post d : Bytes)
    (h1 : 1 ≤ d.length) (h2 : d.length ≤ 75) :
    PushStep H C pg (pre ++ (UInt8.ofNat d.length :: (d ++ post))) pre.length (1 + d.length) d := by
  have hn : (UInt8.ofNat d.length).toNat = d.length := toNat_ofNat_lt (by omega)
  have hb : byteAt (pre ++ (UInt8.ofNat d.length :: (d ++ post))) pre.length = d.length :=
    (congrArg UInt8.toNat (getD_append_cons pre _ _ 0)).trans hn
  refine ⟨by simp, fun st => ?_, ?_⟩
  · rw [getD_append_cons, decodeOp_push _ (by rw [hn]; exact h1) (by rw [hn]; exact h2), hn]
    exact pushSlice_mid pre [UInt8.ofNat d.length] d post st
  · rw [nextOp_push _ _ (by simp) (by omega) (by omega) (by rw [hb]; simp; omega), hb]
    omega

/-- OP_PUSHDATA1/2/4 followed by a length field `f` of one, two, four bytes that reads `d.length`.  The
    interpreter spells the field out byte by byte for each opcode, so the three widths are three cases; what
    they share is the position of the data (`pushSlice_mid`) and that the field reads `leToNat f`. -/
theorem step_pushdata (H : Hashes) (C : Checker σ) (pg : Bool) (pre post d f : Bytes) (op : UInt8)
    (hw : op = 76 ∧ f.length = 1 ∨ op = 77 ∧ f.length = 2 ∨ op = 78 ∧ f.length = 4)
    (hl : leToNat f = d.length) :
    PushStep H C pg (pre ++ (op :: (f ++ d) ++ post)) pre.length (op :: (f ++ d)).length d := by
  have hslice := fun st : St σ => pushSlice_mid pre (op :: f) d post st
  rcases hw with ⟨rfl, hf⟩ | ⟨rfl, hf⟩ | ⟨rfl, hf⟩
  · match f, hf with
    | [l0], _ =>
      simp only [leToNat] at hl
      simp only [List.cons_append, List.nil_append]
      refine ⟨by simp, fun st => ?_, ?_⟩
      · rw [getD_append_cons, show decodeOp (76 : UInt8) = .pushdata1 by decide]
        simp only [exec, byteAt, getD_append_right, List.getD_cons_succ, List.getD_cons_zero]
        rw [if_neg (by simp; omega), show l0.toNat = d.length by omega]
        exact hslice st
      · unfold nextOp
        rw [if_neg (by simp)]
        simp only [byteAt, getD_append_cons, getD_append_right, List.getD_cons_succ, List.getD_cons_zero]
        rw [if_neg (by decide), if_pos (by decide), if_neg (by simp)]
        simp only []
        rw [if_neg (by simp; omega)]
        simp only [List.length_cons]
        omega
  · match f, hf with
    | [l0, l1], _ =>
      simp only [leToNat] at hl
      simp only [List.cons_append, List.nil_append]
      refine ⟨by simp, fun st => ?_, ?_⟩
      · rw [getD_append_cons, show decodeOp (77 : UInt8) = .pushdata2 by decide]
        simp only [exec, byteAt, getD_append_right, List.getD_cons_succ, List.getD_cons_zero]
        rw [if_neg (by simp; omega), show l0.toNat + l1.toNat * 256 = d.length by omega]
        exact hslice st
      · unfold nextOp
        rw [if_neg (by simp)]
        simp only [byteAt, getD_append_cons, getD_append_right, List.getD_cons_succ, List.getD_cons_zero]
        rw [if_neg (by decide), if_neg (by decide), if_pos (by decide), if_neg (by simp)]
        simp only []
        rw [if_neg (by simp; omega)]
        simp only [List.length_cons]
        omega
  · match f, hf with
    | [l0, l1, l2, l3], _ =>
      simp only [leToNat] at hl
      simp only [List.cons_append, List.nil_append]
      refine ⟨by simp, fun st => ?_, ?_⟩
      · rw [getD_append_cons, show decodeOp (78 : UInt8) = .pushdata4 by decide]
        simp only [exec, byteAt, getD_append_right, List.getD_cons_succ, List.getD_cons_zero]
        rw [if_neg (by simp; omega),
          show l0.toNat + l1.toNat * 256 + l2.toNat * 65536 + l3.toNat * 16777216 = d.length by omega]
        exact hslice st
      · unfold nextOp
        rw [if_neg (by simp)]
        simp only [byteAt, getD_append_cons, getD_append_right, List.getD_cons_succ, List.getD_cons_zero]
        rw [if_neg (by decide), if_neg (by decide), if_neg (by decide), if_pos (by decide), if_neg (by simp)]
        simp only []
        rw [if_neg (by simp; omega)]
        simp only [List.length_cons]
        omega

theorem PushStep.len_eq {H : Hashes} {C : Checker σ} {pg : Bool} {script : Bytes} {i len len' : Nat} {d : Bytes}
    (h : PushStep H C pg script i len d) (e : len = len') : PushStep H C pg script i len' d := e ▸ h

theorem step_appendData (H : Hashes) (C : Checker σ) (pg : Bool) (pre post d : Bytes) (h : d.length < 4294967296) :
    PushStep H C pg (pre ++ (appendData [] d ++ post)) pre.length (appendData [] d).length d := by
  rcases pushClass d.length with h0 | ⟨h1, h2⟩ | ⟨h1, h2⟩ | ⟨h1, h2⟩ | h1
  · have hd : d = [] := List.eq_nil_of_length_eq_zero h0
    subst hd
    exact step_empty H C pg pre post
  · rw [appendData_direct _ _ h1 h2]
    exact (step_direct H C pg pre post d h1 h2).len_eq (by simp; omega)
  · rw [appendData_pd1 _ _ h1 h2]
    exact step_pushdata H C pg pre post d _ 76 (Or.inl ⟨rfl, natToLEn_length 1 _⟩)
      (leToNat_natToLEn_of_lt (by omega))
  · rw [appendData_pd2 _ _ h1 h2]
    exact step_pushdata H C pg pre post d _ 77 (Or.inr (Or.inl ⟨rfl, natToLEn_length 2 _⟩))
      (leToNat_natToLEn_of_lt (by omega))
  · rw [appendData_pd4 _ _ h1]
    exact step_pushdata H C pg pre post d _ 78 (Or.inr (Or.inr ⟨rfl, natToLEn_length 4 _⟩))
      (leToNat_natToLEn_of_lt (by omega))

def pushesBytes (ds : List Bytes) : Bytes := (ds.map (appendData [])).flatten

theorem foldl_appendData (ds : List Bytes) (s : Bytes) : ds.foldl appendData s = s ++ pushesBytes ds := by
  induction ds generalizing s with
  | nil => simp [pushesBytes]
  | cons d ds ih =>
    rw [List.foldl_cons, ih, appendData_prefix]
    simp [pushesBytes]

theorem runWith_pushes (H : Hashes) (C : Checker σ) (pg : Bool) :
    ∀ (ds : List Bytes) (pre script : Bytes) (st : St σ) (fuel : Nat),
      script = pre ++ pushesBytes ds → (∀ d ∈ ds, d.length < 4294967296) → st.branch = [] → ds.length + 1 ≤ fuel →
      runWith (exec H C pg script) script none fuel pre.length st
        = .ok ({ st with stack := ds.reverse ++ st.stack }, script.length) := by
  intro ds
  induction ds with
  | nil =>
    intro pre script st fuel hs _ hb hf
    obtain ⟨fuel, rfl⟩ : ∃ f, fuel = f + 1 := ⟨fuel - 1, by omega⟩
    obtain ⟨stack, alt, branch, ci, chk⟩ := st
    simp only at hb
    subst hb
    have hl : script.length = pre.length := by rw [hs]; simp [pushesBytes]
    simp only [runWith]
    rw [if_neg (by omega)]
    simp [finish, hl]
  | cons d ds ih =>
    intro pre script st fuel hs hd hb hf
    obtain ⟨fuel, rfl⟩ : ∃ f, fuel = f + 1 := ⟨fuel - 1, by omega⟩
    obtain ⟨stack, alt, branch, ci, chk⟩ := st
    simp only at hb
    subst hb
    have hb : (St.mk stack alt ([] : List Bool) ci chk).branch = [] := rfl
    have hs' : script = pre ++ (appendData [] d ++ pushesBytes ds) := by rw [hs]; simp [pushesBytes]
    have stp := step_appendData H C pg pre (pushesBytes ds) d (hd d (by simp))
    rw [← hs'] at stp
    simp only [runWith]
    rw [if_pos stp.inside, if_neg (by have := stp.inside; omega)]
    simp only [stp.exec, stp.next]
    have hs2 : script = (pre ++ appendData [] d) ++ pushesBytes ds := by rw [hs']; simp
    have := ih (pre ++ appendData [] d) script ⟨d :: stack, alt, [], ci, chk⟩ fuel hs2
      (fun x hx => hd x (by simp [hx])) hb (by simp at hf; omega)
    rw [List.length_append] at this
    rw [this]
    simp

theorem pushesBytes_length (ds : List Bytes) : ds.length ≤ (pushesBytes ds).length := by
  induction ds with
  | nil => simp
  | cons d ds ih =>
    have h1 := appendData_length [] d
    have h2 := (overhead_bounds d.length).1
    simp only [pushesBytes, List.map_cons, List.flatten_cons, List.length_append, List.length_cons] at ih ⊢
    simp only [List.length_nil] at h1
    omega

theorem coreEval_pushes (H : Hashes) (C : Checker σ) (c0 : σ) (flags : Nat) (ds : List Bytes)
    (h : ∀ d ∈ ds, d.length < 4294967296) :
    coreEval H C c0 (ds.foldl appendData []) flags none none none none
      = .ok { stack := ds.reverse, alt := [], pos := none, chk := c0 } := by
  have hlen := pushesBytes_length ds
  rw [foldl_appendData, List.nil_append]
  unfold coreEval run
  simp only [Option.getD_none]
  have := runWith_pushes H C (decide (flags % 2 = 1)) ds [] (pushesBytes ds)
    { stack := [], alt := [], branch := [], checkIndex := 0, chk := c0 } ((pushesBytes ds).length + 1)
    (by simp) h rfl (by omega)
  simp only [List.length_nil] at this
  rw [this]
  simp

theorem coreEval_push (H : Hashes) (C : Checker σ) (c0 : σ) (flags : Nat) (d : Bytes) (h : d.length < 4294967296) :
    coreEval H C c0 (appendData [] d) flags none none none none
      = .ok { stack := [d], alt := [], pos := none, chk := c0 } :=
  coreEval_pushes H C c0 flags [d] (fun x hx => by rw [List.mem_singleton.mp hx]; exact h)

theorem push_num (H : Hashes) (C : Checker σ) (c0 : σ) (flags : Nat) (n : Int) (h : n.natAbs ≤ 2147483647) :
    ∃ s t, appendNum [] n = .ok s ∧
      coreEval H C c0 s flags none none none none = .ok { stack := [t], alt := [], pos := none, chk := c0 } ∧
      decodeNum t = .ok n := by
  have he := CG.Proofs.ScriptNum.encodeNum_eq n h
  refine ⟨appendData [] (encodeBig n), encodeBig n, ?_, ?_, ?_⟩
  · simp [appendNum, he]
  · have hl := encodeNum_length he
    exact coreEval_push H C c0 flags _ (by omega)
  · rw [CG.Proofs.ScriptNum.decodeNum_small _ (encodeNum_length he), CG.Proofs.ScriptNum.decode_encode]

end multi
end CG.Proofs.ScriptBuild
