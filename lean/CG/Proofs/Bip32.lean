import CG.Model.Bip32
import CG.Spec.Bip32
import CG.Base.Lemmas
/-!
Helper lemmas for C08 (BIP-32).  Core Lean only (no Mathlib: importing it changes the default simp set).
-/
namespace CG.Proofs.Bip32
open CG CG.Model.Bip32

theorem beNat_nil : beNat [] = 0 := rfl

theorem beNat_cons (x : UInt8) (xs : Bytes) : beNat (x :: xs) = x.toNat * 256 ^ xs.length + beNat xs := by
  rw [beNat, List.reverse_cons, leToNat_snoc, List.length_reverse, Nat.mul_comm, Nat.add_comm, beNat]

theorem beNat_lt (b : Bytes) : beNat b < 256 ^ b.length := by
  simpa [beNat] using leToNat_lt b.reverse

@[simp] theorem natBE_length (len x : Nat) : (natBE len x).length = len := by simp [natBE]

theorem beNat_natBE (len x : Nat) : beNat (natBE len x) = x % 256 ^ len := by
  simp [beNat, natBE, leToNat_natToLEn]

theorem natBE_beNat (b : Bytes) : natBE b.length (beNat b) = b := by
  simpa [natBE, beNat] using congrArg List.reverse (natToLEn_leToNat b.reverse)

theorem beNat_pos_iff (b : Bytes) : 0 < beNat b ↔ b.any (· != 0) = true := by
  simp [Nat.pos_iff_ne_zero, beNat, leToNat_eq_zero_iff]

theorem beNat_curveOrder : beNat curveOrderBytes = n := by decide

theorem anyBelow_false_le : ∀ (a b : Bytes), a.length = b.length → anyBelow a b = false → beNat b ≤ beNat a
  | [], [], _, _ => Nat.le_refl _
  | [], _ :: _, h, _ => by simp at h
  | _ :: _, [], h, _ => by simp at h
  | x :: xs, y :: ys, h, hb => by
    have hl : xs.length = ys.length := by simpa using h
    simp only [anyBelow, UInt8.lt_iff_toNat_lt] at hb
    split at hb
    · cases hb
    · have ih := anyBelow_false_le xs ys hl hb
      have := Nat.mul_le_mul_right (256 ^ ys.length) (Nat.le_of_not_lt ‹_›)
      rw [beNat_cons, beNat_cons, hl]
      omega

theorem isPrivateKeyValid_iff (key : Bytes) :
    isPrivateKeyValid key = true ↔ key.length = 32 ∧ anyBelow key curveOrderBytes = true ∧ 0 < beNat key := by
  unfold isPrivateKeyValid
  by_cases hl : key.length = 32
  · simp [hl, List.take_of_length_le (Nat.le_of_eq hl), beNat_pos_iff]
  · simp [hl]

theorem isPrivateKeyValid_of_range (key : Bytes) (hl : key.length = 32) (h0 : 0 < beNat key) (hn : beNat key < n) :
    isPrivateKeyValid key = true := by
  refine (isPrivateKeyValid_iff key).mpr ⟨hl, ?_, h0⟩
  cases h : anyBelow key curveOrderBytes with
  | true => rfl
  | false =>
    have := anyBelow_false_le key curveOrderBytes hl h
    rw [beNat_curveOrder] at this
    omega

theorem isPrivateKeyValid_nonzero (key : Bytes) (h : isPrivateKeyValid key = true) :
    key.length = 32 ∧ 0 < beNat key :=
  have h := (isPrivateKeyValid_iff key).mp h
  ⟨h.1, h.2.2⟩

theorem secretKey_ok_iff (b : Bytes) (v : Nat) :
    secretKey b = .ok v ↔ b.length = 32 ∧ 0 < beNat b ∧ beNat b < n ∧ v = beNat b := by
  unfold secretKey
  split <;> rename_i h
  · simp [h, eq_comm]
  · simp only [reduceCtorEq, false_iff]
    exact fun h' => h ⟨h'.1, h'.2.1, h'.2.2.1⟩

theorem secretKey_not_panic (b : Bytes) (s : String) : secretKey b ≠ .panic s := by
  unfold secretKey
  split <;> nofun

/-- the combined check at both call sites (`is_private_key_valid` then `SecretKey::from_slice`) is
    exactly the range test `0 < I_L < n` -/
theorem offsetScalar_ok_iff (I : Bytes) (hI : I.length = 64) (v : Nat) :
    offsetScalar I = .ok v ↔ 0 < beNat (I.take 32) ∧ beNat (I.take 32) < n ∧ v = beNat (I.take 32) := by
  have hl : (I.take 32).length = 32 := by simp [hI]
  unfold offsetScalar
  simp only [hI, ne_eq, not_true_eq_false, ↓reduceIte]
  constructor
  · intro h
    split at h
    · cases h
    · exact ((secretKey_ok_iff _ _).mp h).2
  · rintro ⟨h0, hn, hv⟩
    simpa [isPrivateKeyValid_of_range _ hl h0 hn] using (secretKey_ok_iff _ _).mpr ⟨hl, h0, hn, hv⟩

theorem offsetScalar_not_panic (I : Bytes) (s : String) : offsetScalar I ≠ .panic s := by
  unfold offsetScalar
  split
  · nofun
  split
  · nofun
  exact secretKey_not_panic _ _

theorem offsetScalar_err (I : Bytes) (hI : I.length = 64) (h : ¬ (0 < beNat (I.take 32) ∧ beNat (I.take 32) < n)) :
    ∃ e, offsetScalar I = .err e := by
  cases hv : offsetScalar I with
  | ok v =>
    have := (offsetScalar_ok_iff I hI v).mp hv
    exact absurd ⟨this.1, this.2.1⟩ h
  | err e => exact ⟨e, rfl⟩
  | panic s => exact absurd hv (offsetScalar_not_panic _ _)

theorem offsetScalar_cases (I : Bytes) (hI : I.length = 64) :
    (offsetScalar I = .ok (beNat (I.take 32)) ∧ 0 < beNat (I.take 32) ∧ beNat (I.take 32) < n) ∨
    ((∃ e, offsetScalar I = .err e) ∧ ¬ (0 < beNat (I.take 32) ∧ beNat (I.take 32) < n)) := by
  by_cases h : 0 < beNat (I.take 32) ∧ beNat (I.take 32) < n
  · exact .inl ⟨(offsetScalar_ok_iff I hI _).mpr ⟨h.1, h.2, rfl⟩, h⟩
  · exact .inr ⟨offsetScalar_err I hI h, h⟩

theorem splitOn_ne_nil (sep : Char) (s : List Char) : splitOn sep s ≠ [] := by
  cases s with
  | nil => simp [splitOn]
  | cons c cs =>
    simp only [splitOn]
    split
    · simp
    · split <;> simp

theorem splitOn_noSep (sep : Char) (p : List Char) (h : sep ∉ p) : splitOn sep p = [p] := by
  induction p with
  | nil => rfl
  | cons c cs ih =>
    rw [List.mem_cons, not_or] at h
    simp [splitOn, Ne.symm h.1, ih h.2]

theorem splitOn_append_sep (sep : Char) (p r : List Char) (h : sep ∉ p) :
    splitOn sep (p ++ sep :: r) = p :: splitOn sep r := by
  induction p with
  | nil => simp [splitOn]
  | cons c cs ih =>
    rw [List.mem_cons, not_or] at h
    simp [splitOn, Ne.symm h.1, ih h.2]

theorem splitOn_join (sep : Char) : ∀ (ps : List (List Char)) (p : List Char), sep ∉ p → (∀ q ∈ ps, sep ∉ q) →
    splitOn sep (p ++ ps.flatMap (sep :: ·)) = p :: ps
  | [], p, hp, _ => by simpa using splitOn_noSep sep p hp
  | q :: qs, p, hp, hq => by
    obtain ⟨hq, hqs⟩ := List.forall_mem_cons.mp hq
    rw [List.flatMap_cons, List.cons_append, splitOn_append_sep sep p _ hp, splitOn_join sep qs q hq hqs]

theorem splitOn_inv (sep : Char) : ∀ (s p : List Char) (ps : List (List Char)), splitOn sep s = p :: ps →
    s = p ++ ps.flatMap (sep :: ·) ∧ sep ∉ p ∧ ∀ q ∈ ps, sep ∉ q
  | [], p, ps, h => by
    obtain ⟨rfl, rfl⟩ : [] = p ∧ [] = ps := by simpa [splitOn] using h
    simp
  | c :: cs, p, ps, h => by
    rcases hsp : splitOn sep cs with _ | ⟨q, qs⟩
    · exact absurd hsp (splitOn_ne_nil _ _)
    obtain ⟨hcs, hq, hqs⟩ := splitOn_inv sep cs q qs hsp
    by_cases hc : c = sep
    · obtain ⟨rfl, rfl⟩ : [] = p ∧ q :: qs = ps := by simpa [splitOn, hc, hsp] using h
      exact ⟨by simp [hc, ← hcs], by simp, List.forall_mem_cons.mpr ⟨hq, hqs⟩⟩
    · obtain ⟨rfl, rfl⟩ : c :: q = p ∧ qs = ps := by simpa [splitOn, hc, hsp] using h
      exact ⟨by simp [← hcs], by simp [hq, Ne.symm hc], hqs⟩

open CG.Spec.Bip32 (Comp Denotes pathText)

theorem isMarker_iff (c : Char) : isMarker c = true ↔ c = '\'' ∨ c = 'h' ∨ c = 'H' := by
  simp [isMarker, or_assoc]

theorem digit_not_marker (c : Char) (h : c.isDigit = true) : isMarker c = false := by
  cases hm : isMarker c with
  | false => rfl
  | true => rcases (isMarker_iff c).mp hm with rfl | rfl | rfl <;> simp [Char.isDigit] at h

theorem digit_ne_plus (c : Char) (h : c.isDigit = true) : c ≠ '+' := by
  rintro rfl
  simp [Char.isDigit] at h

theorem digit_ne_slash (c : Char) (h : c.isDigit = true) : c ≠ '/' := by
  rintro rfl
  simp [Char.isDigit] at h

theorem marker_ne_slash (c : Char) (h : isMarker c = true) : c ≠ '/' := by
  rintro rfl
  simp [isMarker] at h

theorem parseU32_digits (d : List Char) (hne : d ≠ []) (hd : d.all Char.isDigit = true) :
    parseU32 d = if decimal d < 4294967296 then .ok (decimal d) else .err "ParseIntError" := by
  cases d with
  | nil => exact absurd rfl hne
  | cons c r =>
    have hs : stripPlus (c :: r) = c :: r := by
      unfold stripPlus
      split
      · rename_i heq
        exact absurd (List.cons.inj heq).1 (digit_ne_plus c (by simp at hd; exact hd.1))
      · rfl
    simp [parseU32, hs, hd]

theorem lastIsMarker_concat (init : List Char) (last : Char) : lastIsMarker (init ++ [last]) = isMarker last := by
  simp [lastIsMarker]

theorem parseIndexStrict_ok_digits (part : List Char) (idx : Nat) :
    parseIndexStrict part = .ok idx ↔
      indexDigits part ≠ [] ∧ (indexDigits part).all Char.isDigit = true ∧
      if lastIsMarker part then decimal (indexDigits part) < 2 ^ 31 ∧ idx = decimal (indexDigits part) + 2 ^ 31
      else decimal (indexDigits part) < 2 ^ 32 ∧ idx = decimal (indexDigits part) := by
  unfold parseIndexStrict
  by_cases hne : indexDigits part = []
  · simp [hne]
  by_cases hall : (indexDigits part).all Char.isDigit = true
  · rw [parseU32_digits _ hne hall]
    generalize decimal (indexDigits part) = d
    have h31 : (2 : Nat) ^ 31 = 2147483648 := rfl
    have h32 : (2 : Nat) ^ 32 = 4294967296 := rfl
    simp only [hne, hall, HARDENED_KEY, h31, h32, ne_eq, not_false_eq_true, true_and, decide_false, Bool.not_true,
      Bool.or_self, Bool.false_eq_true, ↓reduceIte]
    by_cases hlt : d < 4294967296
    · simp only [hlt, ↓reduceIte, true_and]
      cases lastIsMarker part <;> simp only [Bool.false_eq_true, ↓reduceIte]
      · simp [eq_comm]
      · by_cases hh : d ≥ 2147483648 <;>
          simp only [hh, ↓reduceIte, Outcome.ok.injEq, reduceCtorEq, false_iff, not_and] <;> omega
    · simp only [hlt, ↓reduceIte, reduceCtorEq, false_iff]
      cases lastIsMarker part <;> simp only [Bool.false_eq_true, ↓reduceIte, false_and, not_false_eq_true]
      omega
  · simp [hne, hall]

theorem lastIsMarker_text (c : Comp) (h : c.WF) : lastIsMarker c.text = c.marker.isSome := by
  obtain ⟨digits, marker⟩ := c
  obtain ⟨hne, hdig, hmk⟩ := h
  cases marker with
  | none =>
    obtain ⟨init, last, rfl⟩ := List.eq_nil_or_concat digits |>.resolve_left hne
    simpa [Comp.text, lastIsMarker] using digit_not_marker last (hdig last (by simp))
  | some m => simpa [Comp.text, lastIsMarker] using (isMarker_iff m).mpr hmk.1

theorem indexDigits_text (c : Comp) (h : c.WF) : indexDigits c.text = c.digits := by
  rw [indexDigits, lastIsMarker_text c h]
  cases hm : c.marker <;> simp [Comp.text, hm]

theorem parseIndexStrict_ok_iff (part : List Char) (idx : Nat) :
    parseIndexStrict part = .ok idx ↔ ∃ c : Comp, c.WF ∧ part = c.text ∧ idx = c.childNumber := by
  rw [parseIndexStrict_ok_digits]
  constructor
  · rintro ⟨hne, hall, h⟩
    cases hm : lastIsMarker part with
    | false =>
      have hd : indexDigits part = part := by simp [indexDigits, hm]
      rw [hd] at hne hall h
      rw [hm] at h
      exact ⟨⟨part, none⟩, ⟨hne, List.all_eq_true.mp hall, h.1⟩, by simp [Comp.text], h.2⟩
    | true =>
      cases hg : part.getLast? with
      | none => simp [lastIsMarker, hg] at hm
      | some m =>
        obtain ⟨init, rfl⟩ := List.getLast?_eq_some_iff.mp hg
        rw [lastIsMarker_concat] at hm
        have hd : indexDigits (init ++ [m]) = init := by simp [indexDigits, lastIsMarker_concat, hm]
        rw [hd] at hne hall h
        rw [lastIsMarker_concat, hm] at h
        exact ⟨⟨init, some m⟩, ⟨hne, List.all_eq_true.mp hall, (isMarker_iff m).mp hm, h.1⟩, rfl, h.2⟩
  · rintro ⟨c, hwf, rfl, rfl⟩
    rw [indexDigits_text c hwf, lastIsMarker_text c hwf]
    obtain ⟨digits, marker⟩ := c
    obtain ⟨hne, hdig, hmk⟩ := hwf
    refine ⟨hne, List.all_eq_true.mpr hdig, ?_⟩
    cases marker with
    | none => exact ⟨hmk, rfl⟩
    | some m => exact ⟨hmk.2, rfl⟩

theorem parseIndex_repaired (part : List Char) : parseIndex repaired part = parseIndexStrict part := rfl

theorem parseParts_cons_ok (v : Variant) (part : List Char) (rest : List (List Char)) (idxs : List Nat) :
    parseParts v (part :: rest) = .ok idxs ↔
      part ≠ [] ∧ ∃ idx l, parseIndex v part = .ok idx ∧ parseParts v rest = .ok l ∧ idxs = idx :: l := by
  rw [parseParts]
  by_cases hne : part = []
  · simp [hne]
  · cases parseIndex v part <;> simp [hne, Outcome.map_eq_ok]

theorem text_ne_nil (c : Comp) (h : c.WF) : c.text ≠ [] := by
  simp [Comp.text, h.1]

theorem parseParts_ok_iff (parts : List (List Char)) (idxs : List Nat) :
    parseParts repaired parts = .ok idxs ↔
      ∃ cs : List Comp, (∀ c ∈ cs, c.WF) ∧ parts = cs.map Comp.text ∧ idxs = cs.map Comp.childNumber := by
  induction parts generalizing idxs with
  | nil =>
    simp only [parseParts, Outcome.ok.injEq]
    constructor
    · rintro rfl
      exact ⟨[], nofun, rfl, rfl⟩
    · rintro ⟨_ | _, -, ht, rfl⟩
      · rfl
      · cases ht
  | cons part rest ih =>
    simp only [parseParts_cons_ok, parseIndex_repaired]
    constructor
    · rintro ⟨-, idx, l, hidx, hl, rfl⟩
      obtain ⟨c, hc, rfl, rfl⟩ := (parseIndexStrict_ok_iff _ _).mp hidx
      obtain ⟨cs, hwf, rfl, rfl⟩ := (ih l).mp hl
      exact ⟨c :: cs, List.forall_mem_cons.mpr ⟨hc, hwf⟩, rfl, rfl⟩
    · rintro ⟨_ | ⟨c, cs⟩, hwf, ht, rfl⟩
      · cases ht
      · obtain ⟨rfl, rfl⟩ := List.cons.inj ht
        obtain ⟨hc, hwf⟩ := List.forall_mem_cons.mp hwf
        exact ⟨text_ne_nil c hc, c.childNumber, cs.map Comp.childNumber,
          (parseIndexStrict_ok_iff _ _).mpr ⟨c, hc, rfl, rfl⟩, (ih _).mpr ⟨cs, hwf, rfl, rfl⟩, rfl⟩

theorem slash_not_mem_text (c : Comp) (h : c.WF) : '/' ∉ c.text := by
  obtain ⟨digits, marker⟩ := c
  obtain ⟨-, hdig, hmk⟩ := h
  simp only [Comp.text, List.mem_append, not_or]
  refine ⟨fun hm => digit_ne_slash _ (hdig _ hm) rfl, ?_⟩
  cases marker with
  | none => simp
  | some m => simpa using (marker_ne_slash m ((isMarker_iff m).mpr hmk.1)).symm

theorem parsePath_ok (v : Variant) (s : List Char) (kt : KeyType) (idxs : List Nat) :
    parsePath v s = .ok (kt, idxs) ↔
      ∃ rest, splitOn '/' s = [if kt = .priv then 'm' else 'M'] :: rest ∧ parseParts v rest = .ok idxs := by
  unfold parsePath
  rcases hsp : splitOn '/' s with _ | ⟨p0, rest⟩
  · exact absurd hsp (splitOn_ne_nil _ _)
  · simp only [List.cons.injEq]
    split
    · cases kt <;> simp [*, Outcome.map_eq_ok]
    · split <;> cases kt <;> simp [*, Outcome.map_eq_ok]

theorem parse256_eq (b : Bytes) : Spec.Bip32.parse256 b = beNat b := by
  rw [Spec.Bip32.parse256, beNat, List.foldl_eq_foldr_reverse]
  induction b.reverse with
  | nil => rfl
  | cons x xs ih =>
    rw [List.foldr_cons, ih, leToNat]
    omega

theorem serN_eq (len x : Nat) : Spec.Bip32.serN len x = natBE len x := by
  induction len with
  | zero => rfl
  | succ k ih => simp [Spec.Bip32.serN, ih, natBE, natToLEn_succ_snoc]

theorem ser32_eq (x : Nat) : Spec.Bip32.ser32 x = natBE 4 x := serN_eq 4 x
theorem ser256_eq (x : Nat) : Spec.Bip32.ser256 x = natBE 32 x := serN_eq 32 x
theorem n_eq : Spec.Bip32.n = n := by decide

def lay (v d : Nat) (fp : Bytes) (idx : Nat) (cc kd : Bytes) : Bytes :=
  natBE 4 v ++ (UInt8.ofNat d :: (fp ++ (natBE 4 idx ++ (cc ++ kd))))

section layout
variable {v d idx : Nat} {fp cc kd : Bytes}

theorem version_lay : version (lay v d fp idx cc kd) = v % 2^32 := by
  simp [version, lay, beNat_natBE]

theorem depth_lay : depth (lay v d fp idx cc kd) = d % 256 := by
  simp [depth, lay]

theorem parentFingerprint_lay (hfp : fp.length = 4) : parentFingerprint (lay v d fp idx cc kd) = fp := by
  simp [parentFingerprint, lay, List.drop_append, List.drop_of_length_le, hfp]

theorem index_lay (hfp : fp.length = 4) : index (lay v d fp idx cc kd) = idx % 2^32 := by
  simp [index, lay, List.drop_append, List.drop_of_length_le, hfp, beNat_natBE]

theorem chainCode_lay (hfp : fp.length = 4) (hcc : cc.length = 32) : chainCode (lay v d fp idx cc kd) = cc := by
  simp [chainCode, lay, List.drop_append, List.drop_of_length_le, hfp, hcc]

theorem keyData_lay (hfp : fp.length = 4) (hcc : cc.length = 32) : keyData (lay v d fp idx cc kd) = kd := by
  simp [keyData, lay, List.drop_append, List.drop_of_length_le, hfp, hcc]

theorem lay_length (hfp : fp.length = 4) (hcc : cc.length = 32) (hkd : kd.length = 33) :
    (lay v d fp idx cc kd).length = 78 := by
  simp [lay, hfp, hcc, hkd]

end layout

open CG.Spec.Bip32 (Params XKey KeyMat serialize childPriv childPub toPublic ckdPriv ckdPub privI pubI fingerprint pubPoint versionBytes)

def netOf : Spec.Bip32.Net → Net
  | .main => .main
  | .test => .test

def toParams {P} (o : Ops P) : Params P where
  hmacSha512 := o.hmac
  hash160 := o.hash160
  point := o.mulG
  add := o.add
  isInfinity := o.isId
  serP := o.ser
  parseP := o.parse

/-- the facts about the external crates that the theorems use -/
structure OpsOK {P} (o : Ops P) : Prop where
  /-- `to_sec1_bytes` of a public key (never the identity) is 33 bytes -/
  ser_len : ∀ p, o.isId p = false → (o.ser p).length = 33
  /-- the public key of a secret scalar in range is not the identity -/
  mulG_ne_id : ∀ x, 0 < x → x < n → o.isId (o.mulG x) = false
  /-- `from_sec1_bytes` inverts `to_sec1_bytes` -/
  parse_ser : ∀ p, o.isId p = false → o.parse (o.ser p) = some p
  hmac_len : ∀ k m, (o.hmac k m).length = 64
  hash_len : ∀ b, (o.hash160 b).length = 20

/-- an extended key that has a 78-byte serialization -/
structure XWF {P} (o : Ops P) (x : XKey P) : Prop where
  depth : x.depth < 256
  fp : x.parentFp.length = 4
  idx : x.childNum < 2 ^ 32
  chain : x.chain.length = 32
  key : ∀ k, x.key = .priv k → 0 < k ∧ k < n
  pubkey : ∀ K, x.key = .pub K → o.isId K = false

def okOf {α} : Outcome α → Option α
  | .ok a => some a
  | _ => none

def keyBytes {P} (o : Ops P) : KeyMat P → Bytes
  | .priv k => (0 : UInt8) :: natBE 32 k
  | .pub K => o.ser K

theorem serialize_eq_lay {P} (o : Ops P) (x : XKey P) :
    serialize (toParams o) x =
      lay (versionBytes x.net x.isPrivate) x.depth x.parentFp x.childNum x.chain (keyBytes o x.key) := by
  unfold serialize lay
  rw [ser32_eq, ser32_eq]
  cases hk : x.key <;> simp [keyBytes, ser256_eq, toParams]

theorem privVersion_netOf (net : Spec.Bip32.Net) : privVersion (netOf net) = versionBytes net true := by
  cases net <;> rfl
theorem pubVersion_netOf (net : Spec.Bip32.Net) : pubVersion (netOf net) = versionBytes net false := by
  cases net <;> rfl

theorem secretKey_natBE (k : Nat) (h0 : 0 < k) (hn : k < n) : secretKey (natBE 32 k) = .ok k := by
  have hk : beNat (natBE 32 k) = k := by
    rw [beNat_natBE]
    apply Nat.mod_eq_of_lt
    have : n < 256 ^ 32 := by decide
    omega
  exact (secretKey_ok_iff _ _).mpr ⟨by simp, by omega, by omega, hk.symm⟩

theorem newPrivateKey_lay {net : Net} {d : Nat} {fp : Bytes} {idx : Nat} {cc sk : Bytes}
    (hfp : fp.length = 4) (hcc : cc.length = 32) (hsk : sk.length = 32) :
    newPrivateKey net d fp idx cc sk = .ok (lay (privVersion net) d fp idx cc (0 :: sk)) := by
  simp [newPrivateKey, hfp, hcc, hsk, lay]

theorem newPublicKey_lay {net : Net} {d : Nat} {fp : Bytes} {idx : Nat} {cc pk : Bytes}
    (hfp : fp.length = 4) (hcc : cc.length = 32) (hpk : pk.length = 33) :
    newPublicKey net d fp idx cc pk = .ok (lay (pubVersion net) d fp idx cc pk) := by
  simp [newPublicKey, hfp, hcc, hpk, lay]

section fields
variable {P : Type} {o : Ops P} {x : XKey P}

theorem keyType_serialize : keyType (serialize (toParams o) x) = .ok (if x.isPrivate then .priv else .pub) := by
  rw [keyType, serialize_eq_lay, version_lay]
  cases x.net <;> cases x.isPrivate <;> decide

theorem network_serialize : network (serialize (toParams o) x) = .ok (netOf x.net) := by
  rw [network, serialize_eq_lay, version_lay]
  cases x.net <;> cases x.isPrivate <;> decide

variable (hx : XWF o x)
include hx

theorem depth_serialize : depth (serialize (toParams o) x) = x.depth := by
  rw [serialize_eq_lay, depth_lay, Nat.mod_eq_of_lt hx.depth]

theorem parentFingerprint_serialize : parentFingerprint (serialize (toParams o) x) = x.parentFp := by
  rw [serialize_eq_lay, parentFingerprint_lay hx.fp]

theorem index_serialize : index (serialize (toParams o) x) = x.childNum := by
  rw [serialize_eq_lay, index_lay hx.fp, Nat.mod_eq_of_lt hx.idx]

theorem chainCode_serialize : chainCode (serialize (toParams o) x) = x.chain := by
  rw [serialize_eq_lay, chainCode_lay hx.fp hx.chain]

theorem keyData_serialize : keyData (serialize (toParams o) x) = keyBytes o x.key := by
  rw [serialize_eq_lay, keyData_lay hx.fp hx.chain]

theorem privBytes_serialize : privBytes (serialize (toParams o) x) = (keyBytes o x.key).drop 1 := by
  rw [← keyData_serialize hx, keyData, List.drop_drop]
  rfl

end fields

section steps
variable {P : Type} (o : Ops P)

theorem pubPoint_ne_id (ok : OpsOK o) (x : XKey P) (hx : XWF o x) : o.isId (pubPoint (toParams o) x) = false := by
  cases hk : x.key with
  | priv k => have := hx.key k hk; simpa [pubPoint, hk, toParams] using ok.mulG_ne_id k this.1 this.2
  | pub K => simpa [pubPoint, hk] using hx.pubkey K hk

theorem privI_len (ok : OpsOK o) (k : Nat) (c : Bytes) (i : Nat) : (privI (toParams o) k c i).length = 64 := by
  unfold privI
  split <;> exact ok.hmac_len _ _

theorem pubI_len (ok : OpsOK o) (K : P) (c : Bytes) (i : Nat) : (pubI (toParams o) K c i).length = 64 := by
  unfold pubI
  exact ok.hmac_len _ _

theorem publicKey_serialize (ok : OpsOK o) (x : XKey P) (hx : XWF o x) :
    publicKey o (serialize (toParams o) x) = .ok (o.ser (pubPoint (toParams o) x)) := by
  unfold publicKey
  rw [keyType_serialize]
  cases hk : x.key with
  | priv k =>
    have hr := hx.key k hk
    simp [XKey.isPrivate, hk, privBytes_serialize hx, keyBytes, secretKey_natBE k hr.1 hr.2,
      ok.ser_len _ (ok.mulG_ne_id k hr.1 hr.2), pubPoint]
    rfl
  | pub K => simp [XKey.isPrivate, hk, keyData_serialize hx, keyBytes, pubPoint]

/-- the two cryptographically unreachable events (probability ≈ 2⁻²⁵⁶ per step) on which the code
    and the BIP text differ: `I_L = 0` (the code rejects it, the BIP does not) and `k_i = 0`
    (the BIP rejects it, the code returns the zero key).  The second carries `I_L < n` because for
    `I_L ≥ n` code and BIP agree again: both reject before `k_i` is looked at. -/
def PrivEdge (E : Params P) (k : Nat) (c : Bytes) (i : Nat) : Prop :=
  Spec.Bip32.parse256 ((privI E k c i).take 32) = 0 ∨
  (Spec.Bip32.parse256 ((privI E k c i).take 32) < Spec.Bip32.n ∧
    (Spec.Bip32.parse256 ((privI E k c i).take 32) + k) % Spec.Bip32.n = 0)

/-- `I_L = 0` in `CKDpub` (the code rejects it, the BIP does not) -/
def PubEdge (E : Params P) (K : P) (c : Bytes) (i : Nat) : Prop :=
  Spec.Bip32.parse256 ((pubI E K c i).take 32) = 0

theorem keyType_cases (k : Bytes) : keyType k = .ok .pub ∨ keyType k = .ok .priv ∨ keyType k = .err "BadData" := by
  unfold keyType
  simp only
  split
  · simp
  split <;> simp

theorem network_cases (k : Bytes) : (∃ nt, network k = .ok nt) ∨ network k = .err "BadData" := by
  unfold network
  simp only
  split
  · simp
  split <;> simp

theorem derivePrivateKey_depth255 (k : Bytes) (i : Nat) (h : depth k = 255) :
    ∃ e, derivePrivateKey o k i = .err e := by
  unfold derivePrivateKey
  rcases keyType_cases k with hk | hk | hk <;> rw [hk] <;> simp only
  · exact ⟨_, rfl⟩
  · rcases network_cases k with ⟨nt, hn⟩ | hn
    · rw [hn]
      simp [h]
    · rw [hn]
      simp
  · exact ⟨_, rfl⟩

theorem derivePublicKey_depth255 (a : Bool) (k : Bytes) (i : Nat) (h : depth k = 255) :
    ∃ e, derivePublicKey a o k i = .err e := by
  unfold derivePublicKey
  -- `split` decides the later test `depth k = 255` from `h` as well
  split
  · exact ⟨_, rfl⟩
  rcases network_cases k with ⟨nt, hn⟩ | hn
  · rw [hn]
    simp
  · rw [hn]
    simp

theorem derivePublicKey_hardened (a : Bool) (k : Bytes) (i : Nat) (h : i ≥ HARDENED_KEY) :
    derivePublicKey a o k i = .err "BadArgument" := by
  unfold derivePublicKey
  simp [h]

theorem derivePrivateKey_public (k : Bytes) (i : Nat) (h : keyType k = .ok .pub) :
    derivePrivateKey o k i = .err "BadData" := by
  unfold derivePrivateKey
  rw [h]

/-! Each `?` of the Rust code is a three-way `match` in the model: `split` leaves the error branch (`nofun`), the
panic branch (refuted by the callee's own lemma) and the continuation. -/

theorem keyType_not_panic (k : Bytes) (st : String) : keyType k ≠ .panic st := by
  rcases keyType_cases k with h | h | h <;> rw [h] <;> nofun

theorem network_not_panic (k : Bytes) (st : String) : network k ≠ .panic st := by
  rcases network_cases k with ⟨nt, h⟩ | h <;> rw [h] <;> nofun

theorem newPublicKey_not_panic (net : Net) (d : Nat) (fp : Bytes) (idx : Nat) (cc pk : Bytes) (st : String) :
    newPublicKey net d fp idx cc pk ≠ .panic st := by
  unfold newPublicKey
  split
  · nofun
  split
  · nofun
  split <;> nofun

theorem newPrivateKey_not_panic (net : Net) (d : Nat) (fp : Bytes) (idx : Nat) (cc sk : Bytes) (st : String) :
    newPrivateKey net d fp idx cc sk ≠ .panic st := by
  unfold newPrivateKey
  split
  · nofun
  split
  · nofun
  split <;> nofun

theorem depth_le (k : Bytes) : depth k ≤ 255 := by
  unfold depth; have := ((k.drop 4).headD 0).toNat_lt; omega

theorem ser_mulG_len (ok : OpsOK o) (b : Bytes) (x : Nat) (h : secretKey b = .ok x) : (o.ser (o.mulG x)).length = 33 := by
  obtain ⟨-, h0, hn, rfl⟩ := (secretKey_ok_iff _ _).mp h
  exact ok.ser_len _ (ok.mulG_ne_id _ h0 hn)

theorem publicKey_not_panic (ok : OpsOK o) (k : Bytes) (st : String) : publicKey o k ≠ .panic st := by
  unfold publicKey
  split
  · nofun
  · exact absurd ‹_› (keyType_not_panic _ _)
  · nofun
  split
  · nofun
  · exact absurd ‹_› (secretKey_not_panic _ _)
  simp [ser_mulG_len o ok _ _ ‹_›]

theorem extendedPublicKey_not_panic (ok : OpsOK o) (k : Bytes) (st : String) :
    extendedPublicKey o k ≠ .panic st := by
  unfold extendedPublicKey
  split
  · nofun
  · exact absurd ‹_› (keyType_not_panic _ _)
  · nofun
  split
  · nofun
  · exact absurd ‹_› (secretKey_not_panic _ _)
  simp only [ser_mulG_len o ok _ _ ‹_›, ne_eq, not_true_eq_false, ↓reduceIte]
  split
  · nofun
  · exact absurd ‹_› (network_not_panic _ _)
  exact newPublicKey_not_panic _ _ _ _ _ _ _

theorem derivePrivateKey_not_panic (ok : OpsOK o) (k : Bytes) (i : Nat) (st : String) :
    derivePrivateKey o k i ≠ .panic st := by
  unfold derivePrivateKey
  split
  · nofun
  · exact absurd ‹_› (keyType_not_panic _ _)
  · nofun
  split
  · nofun
  · exact absurd ‹_› (network_not_panic _ _)
  split
  · nofun
  split
  · nofun
  · exact absurd ‹_› (secretKey_not_panic _ _)
  simp only
  split
  · nofun
  · rename_i s hs
    split at hs
    · cases hs
    · cases hp : publicKey o k <;> rw [hp] at hs <;> cases hs
      exact absurd hp (publicKey_not_panic o ok _ _)
  split
  · nofun
  · exact absurd ‹_› (offsetScalar_not_panic _ _)
  split
  · nofun
  · exact absurd ‹_› (publicKey_not_panic o ok _ _)
  rw [if_neg (by have := depth_le k; omega)]
  exact newPrivateKey_not_panic _ _ _ _ _ _ _

theorem childPoint_not_panic (a : Bool) (il : Nat) (pk : Bytes) (st : String) : childPoint a o il pk ≠ .panic st := by
  unfold childPoint
  split
  · split <;> nofun
  · nofun

theorem derivePublicKey_not_panic (a : Bool) (ok : OpsOK o) (k : Bytes) (i : Nat) (st : String) :
    derivePublicKey a o k i ≠ .panic st := by
  unfold derivePublicKey
  split
  · nofun
  split
  · nofun
  · exact absurd ‹_› (network_not_panic _ _)
  split
  · nofun
  split
  · nofun
  · exact absurd ‹_› (publicKey_not_panic o ok _ _)
  simp only
  split
  · nofun
  · exact absurd ‹_› (offsetScalar_not_panic _ _)
  split
  · nofun
  · exact absurd ‹_› (childPoint_not_panic o _ _ _ _)
  split
  · nofun
  rename_i hid
  rw [if_neg (by simp [ok.ser_len _ (by simpa using hid)]), if_neg (by have := depth_le k; omega)]
  exact newPublicKey_not_panic _ _ _ _ _ _ _

theorem okOf_err {α} (o : Outcome α) (h : ∃ e, o = .err e) : okOf o = none := by
  obtain ⟨e, rfl⟩ := h; rfl

theorem priv_step (ok : OpsOK o) (x : XKey P) (hx : XWF o x) (k : Nat) (hk : x.key = .priv k) (i : Nat)
    (hne : ¬ PrivEdge (toParams o) k x.chain i) :
    okOf (derivePrivateKey o (serialize (toParams o) x) i) = (childPriv (toParams o) x i).map (serialize (toParams o)) := by
  by_cases hd : x.depth = 255
  · rw [okOf_err _ (derivePrivateKey_depth255 o _ i (by rw [depth_serialize hx, hd]))]
    simp [childPriv, hk, hd]
  have hr := hx.key k hk
  have hpk : publicKey o (serialize (toParams o) x) = .ok (o.ser (o.mulG k)) := by
    rw [publicKey_serialize o ok x hx]
    simp [pubPoint, hk, toParams]
  have hlen := privI_len o ok k x.chain i
  have hdd : ¬ x.depth ≥ 255 ∧ ¬ x.depth + 1 > 255 := by have := hx.depth; omega
  have hI : privI (toParams o) k x.chain i =
      o.hmac x.chain (if i ≥ HARDENED_KEY then (0 : UInt8) :: (natBE 32 k ++ natBE 4 i)
        else o.ser (o.mulG k) ++ natBE 4 i) := by
    simp only [privI, Spec.Bip32.hardened, HARDENED_KEY, toParams, ser256_eq, ser32_eq, decide_eq_true_eq, Nat.reducePow]
    split <;> simp [*]
  unfold PrivEdge at hne
  unfold derivePrivateKey childPriv ckdPriv
  simp only [keyType_serialize, network_serialize, depth_serialize hx, chainCode_serialize hx, privBytes_serialize hx,
    hpk, XKey.isPrivate, hk, keyBytes, List.drop_succ_cons, List.drop_zero, secretKey_natBE k hr.1 hr.2, hd, hdd,
    ↓reduceIte, Outcome.map, ← apply_ite Outcome.ok, ← hI, parse256_eq, n_eq] at hne ⊢
  generalize privI (toParams o) k x.chain i = I at hlen hne ⊢
  rcases offsetScalar_cases I hlen with ⟨hos, h0, hn⟩ | ⟨⟨e, hos⟩, hr⟩ <;> rw [hos]
  · have hc : ¬ (beNat (I.take 32) ≥ n ∨ (beNat (I.take 32) + k) % n = 0) := by omega
    simp only [hc, ↓reduceIte, Option.map_some]
    rw [newPrivateKey_lay (by simp [ok.hash_len]) (by simp [hlen]) (by simp), privVersion_netOf, serialize_eq_lay]
    simp [okOf, XKey.isPrivate, keyBytes, Spec.Bip32.fingerprint, pubPoint, hk, toParams]
  · have hc : beNat (I.take 32) ≥ n ∨ (beNat (I.take 32) + k) % n = 0 := by omega
    simp [hc, okOf]

theorem toPublic_wf (ok : OpsOK o) (x : XKey P) (hx : XWF o x) : XWF o (toPublic (toParams o) x) :=
  ⟨hx.depth, hx.fp, hx.idx, hx.chain, by intro k hk; simp [toPublic] at hk,
   by intro K hK; simp [toPublic] at hK; rw [← hK]; exact pubPoint_ne_id o ok x hx⟩

theorem pub_step (ok : OpsOK o) (x : XKey P) (hx : XWF o x) (i : Nat)
    (hne : ¬ PubEdge (toParams o) (pubPoint (toParams o) x) x.chain i) :
    okOf (derivePublicKey true o (serialize (toParams o) x) i) =
      (childPub (toParams o) (toPublic (toParams o) x) i).map (serialize (toParams o)) := by
  by_cases hh : i ≥ HARDENED_KEY
  · rw [derivePublicKey_hardened o true _ i hh]
    have : Spec.Bip32.hardened i = true := by simpa [Spec.Bip32.hardened, HARDENED_KEY] using hh
    simp [okOf, childPub, toPublic, ckdPub, this]
  by_cases hd : x.depth = 255
  · rw [okOf_err _ (derivePublicKey_depth255 o true _ i (by rw [depth_serialize hx, hd]))]
    simp [childPub, toPublic, hd]
  have hlen := pubI_len o ok (pubPoint (toParams o) x) x.chain i
  have hdd : ¬ x.depth ≥ 255 ∧ ¬ x.depth + 1 > 255 := by have := hx.depth; omega
  have hnh : Spec.Bip32.hardened i = false := by simpa [Spec.Bip32.hardened, HARDENED_KEY] using hh
  have hI : pubI (toParams o) (pubPoint (toParams o) x) x.chain i =
      o.hmac x.chain (o.ser (pubPoint (toParams o) x) ++ natBE 4 i) := by
    simp [pubI, toParams, ser32_eq]
  unfold PubEdge at hne
  unfold derivePublicKey childPub ckdPub
  simp only [network_serialize, depth_serialize hx, chainCode_serialize hx, publicKey_serialize o ok x hx, hh, hd, hdd,
    ↓reduceIte, ← hI, childPoint, ok.parse_ser _ (pubPoint_ne_id o ok x hx), toPublic, hnh, parse256_eq, n_eq,
    Bool.false_eq_true] at hne ⊢
  generalize pubI (toParams o) (pubPoint (toParams o) x) x.chain i = I at hlen hne ⊢
  rcases offsetScalar_cases I hlen with ⟨hos, h0, hn⟩ | ⟨⟨e, hos⟩, hr⟩ <;> rw [hos]
  · have hnn : ¬ beNat (I.take 32) ≥ n := by omega
    have hinf : (toParams o).isInfinity ((toParams o).add ((toParams o).point (beNat (I.take 32)))
        (pubPoint (toParams o) x)) = o.isId (o.add (o.mulG (beNat (I.take 32))) (pubPoint (toParams o) x)) := rfl
    simp only [hnn, false_or, hinf]
    split
    · rfl
    · rename_i hid
      have hsl := ok.ser_len _ (by simpa using hid)
      rw [if_neg (by simp [hsl]), newPublicKey_lay (by simp [ok.hash_len]) (by simp [hlen]) hsl, pubVersion_netOf]
      simp only [okOf, Option.map_some]
      rw [serialize_eq_lay]
      simp [XKey.isPrivate, keyBytes, Spec.Bip32.fingerprint, pubPoint, toParams]
  · have hc : beNat (I.take 32) ≥ n := by omega
    simp [hc, okOf]

theorem toPublic_of_pub (E : Params P) (x : XKey P) (K : P) (hK : x.key = .pub K) : toPublic E x = x := by
  cases x
  simp_all [toPublic, pubPoint]

theorem extendedPublicKey_serialize (ok : OpsOK o) (x : XKey P) (hx : XWF o x) :
    extendedPublicKey o (serialize (toParams o) x) = .ok (serialize (toParams o) (toPublic (toParams o) x)) := by
  unfold extendedPublicKey
  rw [keyType_serialize]
  cases hk : x.key with
  | pub K => simp [XKey.isPrivate, hk, toPublic_of_pub (toParams o) x K hk]
  | priv k =>
    have hr := hx.key k hk
    have hsl := ok.ser_len _ (ok.mulG_ne_id k hr.1 hr.2)
    simp only [XKey.isPrivate, hk, ↓reduceIte, privBytes_serialize hx, keyBytes, List.drop_succ_cons, List.drop_zero,
      secretKey_natBE k hr.1 hr.2, hsl, ne_eq, not_true_eq_false, network_serialize, depth_serialize hx,
      parentFingerprint_serialize hx, index_serialize hx, chainCode_serialize hx]
    rw [newPublicKey_lay hx.fp hx.chain hsl, pubVersion_netOf, serialize_eq_lay]
    simp [toPublic, XKey.isPrivate, keyBytes, pubPoint, hk, toParams]

theorem parseU32_not_panic (t : List Char) (st : String) : parseU32 t ≠ .panic st := by
  unfold parseU32
  split
  · nofun
  split
  · nofun
  split
  · split <;> nofun
  · nofun

theorem parseIndex_not_panic (v : Variant) (part : List Char) (st : String) : parseIndex v part ≠ .panic st := by
  unfold parseIndex
  split
  · unfold parseIndexStrict
    split
    · nofun
    split
    · nofun
    · exact absurd ‹_› (parseU32_not_panic _ _)
    split
    · split <;> nofun
    · nofun
  · unfold parseIndexPinned
    split
    · split
      · nofun
      · exact absurd ‹_› (parseU32_not_panic _ _)
      split <;> nofun
    · exact parseU32_not_panic _ _

theorem step_not_panic (v : Variant) (ok : OpsOK o) (kt : KeyType) (key : Bytes) (idx : Nat) (st : String) :
    deriveStep v o kt key idx ≠ .panic st := by
  cases kt
  · exact derivePublicKey_not_panic o _ ok _ _ _
  · exact derivePrivateKey_not_panic o ok _ _ _

theorem deriveLoop_not_panic (v : Variant) (ok : OpsOK o) (kt : KeyType) (parts : List (List Char)) (key : Bytes)
    (st : String) : deriveLoop v o kt key parts ≠ .panic st := by
  induction parts generalizing key with
  | nil => nofun
  | cons part rest ih =>
    rw [deriveLoop]
    split
    · nofun
    split
    · nofun
    · exact absurd ‹_› (parseIndex_not_panic _ _ _)
    split
    · nofun
    · exact absurd ‹_› (step_not_panic o v ok _ _ _ _)
    exact ih _

theorem pathStart_not_panic (v : Variant) (ok : OpsOK o) (master : Bytes) (p0 : List Char) (st : String) :
    pathStart v o master p0 ≠ .panic st := by
  unfold pathStart
  split
  · rcases keyType_cases master with hk | hk | hk <;> rw [hk] <;> nofun
  · split
    · nofun
    split
    · cases hx : extendedPublicKey o master
      · nofun
      · nofun
      · exact absurd hx (extendedPublicKey_not_panic o ok _ _)
    · nofun

theorem deriveExtendedKey_not_panic (v : Variant) (ok : OpsOK o) (master : Bytes) (path : List Char) (st : String) :
    deriveExtendedKey v o master path ≠ .panic st := by
  unfold deriveExtendedKey
  split
  · exact absurd ‹_› (splitOn_ne_nil _ _)
  split
  · nofun
  · exact absurd ‹_› (pathStart_not_panic o v ok _ _ _)
  exact deriveLoop_not_panic o v ok _ _ _ _

theorem deriveLoop_ok (v : Variant) (kt : KeyType) (parts : List (List Char)) (key key' : Bytes)
    (h : deriveLoop v o kt key parts = .ok key') :
    ∃ idxs, parseParts v parts = .ok idxs ∧ (kt = .pub → ∀ i ∈ idxs, i < 2 ^ 31) := by
  induction parts generalizing key with
  | nil => exact ⟨[], rfl, fun _ _ hi => nomatch hi⟩
  | cons part rest ih =>
    rw [deriveLoop] at h
    split at h
    · cases h
    rename_i hne
    cases hidx : parseIndex v part with
    | err e => simp [hidx] at h
    | panic s => simp [hidx] at h
    | ok idx =>
      cases hst : deriveStep v o kt key idx with
      | err e => simp [hidx, hst] at h
      | panic s => simp [hidx, hst] at h
      | ok key₁ =>
        simp only [hidx, hst] at h
        obtain ⟨l, hl, hlt⟩ := ih key₁ h
        refine ⟨idx :: l, (parseParts_cons_ok _ _ _ _).mpr ⟨hne, idx, l, hidx, hl, rfl⟩, ?_⟩
        rintro rfl i hi
        rcases List.mem_cons.mp hi with rfl | hi
        · false_or_by_contra
          rename_i hge
          rw [deriveStep, derivePublicKey_hardened o _ key i (by simpa [HARDENED_KEY] using hge)] at hst
          cases hst
        · exact hlt rfl i hi

theorem pathStart_ok (v : Variant) (master : Bytes) (p0 : List Char) (kt : KeyType) (key : Bytes)
    (h : pathStart v o master p0 = .ok (kt, key)) : p0 = [if kt = .priv then 'm' else 'M'] := by
  unfold pathStart at h
  split at h
  · rename_i hm
    rcases keyType_cases master with hk | hk | hk <;> simp [hk] at h
    simp [hm, ← h.1]
  · split at h
    · cases h
    rename_i hM
    have hkt : kt = .pub := by
      split at h
      · obtain ⟨a, -, heq⟩ := Outcome.map_eq_ok.mp h
        exact (Prod.mk.inj heq).1
      · exact (Prod.mk.inj (Outcome.ok.inj h)).1.symm
    simpa [hkt] using hM

theorem deriveExtendedKey_ok (v : Variant) (master : Bytes) (path : List Char) (r : Bytes)
    (h : deriveExtendedKey v o master path = .ok r) :
    ∃ kt idxs, parsePath v path = .ok (kt, idxs) ∧ (kt = .pub → ∀ i ∈ idxs, i < 2 ^ 31) := by
  unfold deriveExtendedKey at h
  split at h
  · cases h
  rename_i p0 rest hsp
  split at h
  · cases h
  · cases h
  · rename_i kt key hst
    obtain ⟨idxs, hp, hlt⟩ := deriveLoop_ok o v kt rest key r h
    exact ⟨kt, idxs,
      (parsePath_ok v path kt idxs).mpr ⟨rest, by rw [hsp, pathStart_ok o v master p0 kt key hst], hp⟩, hlt⟩

theorem err_of_not_ok {α} (r : Outcome α) (hok : ∀ a, r ≠ .ok a) (hp : ∀ st, r ≠ .panic st) :
    ∃ e, r = .err e := by
  cases r with
  | ok a => exact absurd rfl (hok a)
  | err e => exact ⟨e, rfl⟩
  | panic st => exact absurd rfl (hp st)

open CG.Spec.Bip32 (foldPriv foldPub derive)

/-- no step of the private derivation of `idxs` from `x` hits one of the two unreachable events -/
def NoEdgePriv (E : Params P) : XKey P → List Nat → Prop
  | _, [] => True
  | x, i :: r => (∀ k, x.key = .priv k → ¬ PrivEdge E k x.chain i) ∧ ∀ y, childPriv E x i = some y → NoEdgePriv E y r

def NoEdgePub (E : Params P) : XKey P → List Nat → Prop
  | _, [] => True
  | x, i :: r => ¬ PubEdge E (pubPoint E x) x.chain i ∧ ∀ y, childPub E x i = some y → NoEdgePub E y r

theorem okOf_some {α} (r : Outcome α) (b : α) (h : okOf r = some b) : r = .ok b := by
  cases r <;> simp_all [okOf]

theorem okOf_none {α} (r : Outcome α) (h : okOf r = none) (hp : ∀ st, r ≠ .panic st) : ∃ e, r = .err e := by
  cases r with
  | ok a => simp [okOf] at h
  | err e => exact ⟨e, rfl⟩
  | panic st => exact absurd rfl (hp st)

theorem spec_n_pos : 0 < Spec.Bip32.n := by decide

theorem childPriv_wf (ok : OpsOK o) (x y : XKey P) (i : Nat) (hi : i < 2 ^ 32)
    (h : childPriv (toParams o) x i = some y) : XWF o y ∧ ∃ k', y.key = .priv k' := by
  unfold childPriv at h
  cases hk : x.key with
  | pub K => simp [hk] at h
  | priv k =>
    simp only [hk] at h
    split at h
    · cases h
    have hlen := privI_len o ok k x.chain i
    unfold ckdPriv at h
    simp only at h
    generalize privI (toParams o) k x.chain i = I at h hlen
    generalize Spec.Bip32.parse256 (I.take 32) = il at h
    by_cases hc : il ≥ Spec.Bip32.n ∨ (il + k) % Spec.Bip32.n = 0
    · simp [hc] at h
    · simp only [hc, ↓reduceIte, Option.some.injEq] at h
      subst h
      refine ⟨⟨by simp only; omega, by simp [Spec.Bip32.fingerprint, toParams, ok.hash_len], hi, by simp [hlen], ?_,
        nofun⟩, _, rfl⟩
      rintro k' ⟨rfl⟩
      have := Nat.mod_lt (il + k) spec_n_pos
      rw [← n_eq]
      omega

theorem childPub_wf (ok : OpsOK o) (x y : XKey P) (i : Nat) (hi : i < 2 ^ 32)
    (h : childPub (toParams o) x i = some y) : XWF o y ∧ ∃ K', y.key = .pub K' := by
  unfold childPub at h
  cases hk : x.key with
  | priv k => simp [hk] at h
  | pub K =>
    simp only [hk] at h
    split at h
    · cases h
    have hlen := pubI_len o ok K x.chain i
    unfold ckdPub at h
    cases hh : Spec.Bip32.hardened i with
    | true => simp [hh] at h
    | false =>
      simp only [hh, Bool.false_eq_true, ↓reduceIte] at h
      generalize pubI (toParams o) K x.chain i = I at h hlen
      generalize Spec.Bip32.parse256 (I.take 32) = il at h
      by_cases hc : il ≥ Spec.Bip32.n ∨ (toParams o).isInfinity ((toParams o).add ((toParams o).point il) K) = true
      · simp [hc] at h
      · simp only [hc, ↓reduceIte, Option.some.injEq] at h
        subst h
        refine ⟨⟨by simp only; omega, by simp [Spec.Bip32.fingerprint, toParams, ok.hash_len], hi, by simp [hlen], nofun,
          ?_⟩, _, rfl⟩
        rintro K' ⟨rfl⟩
        simpa [toParams] using fun h => hc (Or.inr h)

theorem parseIndex_repaired_lt (part : List Char) (idx : Nat) (h : parseIndex repaired part = .ok idx) : idx < 2 ^ 32 := by
  obtain ⟨c, hwf, -, rfl⟩ := (parseIndexStrict_ok_iff part idx).mp h
  obtain ⟨digits, marker⟩ := c
  obtain ⟨-, -, hm⟩ := hwf
  cases marker with
  | none => simpa [Comp.childNumber] using hm
  | some m =>
    simp only at hm
    simp only [Comp.childNumber]
    omega

theorem okOf_deriveLoop_cons (v : Variant) (kt : KeyType) (key : Bytes) (part : List Char) (rest : List (List Char))
    (idx : Nat) (hne : part ≠ []) (hidx : parseIndex v part = .ok idx) :
    okOf (deriveLoop v o kt key (part :: rest)) =
      (okOf (deriveStep v o kt key idx)).bind fun key' => okOf (deriveLoop v o kt key' rest) := by
  rw [deriveLoop]
  simp only [hne, hidx, ↓reduceIte]
  cases deriveStep v o kt key idx <;> rfl

theorem loop_priv (ok : OpsOK o) : ∀ (parts : List (List Char)) (idxs : List Nat) (x : XKey P),
    parseParts repaired parts = .ok idxs → XWF o x → (∃ k, x.key = .priv k) → NoEdgePriv (toParams o) x idxs →
    okOf (deriveLoop repaired o .priv (serialize (toParams o) x) parts) =
      (foldPriv (toParams o) x idxs).map (serialize (toParams o))
  | [], idxs, x, hp, _, _, _ => by
    simp [parseParts] at hp
    subst hp
    simp [deriveLoop, okOf, foldPriv]
  | part :: rest, idxs, x, hp, hx, ⟨k, hk⟩, hne => by
    obtain ⟨hpne, idx, l, hidx, hl, rfl⟩ := (parseParts_cons_ok _ _ _ _).mp hp
    rw [okOf_deriveLoop_cons o _ _ _ _ _ idx hpne hidx, deriveStep, priv_step o ok x hx k hk idx (hne.1 k hk), foldPriv]
    cases hc : childPriv (toParams o) x idx with
    | none => rfl
    | some y =>
      obtain ⟨hy, hky⟩ := childPriv_wf o ok x y idx (parseIndex_repaired_lt part idx hidx) hc
      exact loop_priv ok rest l y hl hy hky (hne.2 y hc)

theorem loop_pub (ok : OpsOK o) : ∀ (parts : List (List Char)) (idxs : List Nat) (x : XKey P),
    parseParts repaired parts = .ok idxs → XWF o x → (∃ K, x.key = .pub K) → NoEdgePub (toParams o) x idxs →
    okOf (deriveLoop repaired o .pub (serialize (toParams o) x) parts) =
      (foldPub (toParams o) x idxs).map (serialize (toParams o))
  | [], idxs, x, hp, _, _, _ => by
    simp [parseParts] at hp
    subst hp
    simp [deriveLoop, okOf, foldPub]
  | part :: rest, idxs, x, hp, hx, ⟨K, hK⟩, hne => by
    obtain ⟨hpne, idx, l, hidx, hl, rfl⟩ := (parseParts_cons_ok _ _ _ _).mp hp
    have hstep := pub_step o ok x hx idx hne.1
    rw [toPublic_of_pub (toParams o) x K hK] at hstep
    rw [okOf_deriveLoop_cons o _ _ _ _ _ idx hpne hidx, deriveStep, show repaired.ckdpubAddsParent = true from rfl, hstep,
      foldPub]
    cases hc : childPub (toParams o) x idx with
    | none => rfl
    | some y =>
      obtain ⟨hy, hky⟩ := childPub_wf o ok x y idx (parseIndex_repaired_lt part idx hidx) hc
      exact loop_pub ok rest l y hl hy hky (hne.2 y hc)

/-- side condition of `C08_path_eq_spec`: no step on the way hits `I_L = 0` / `k_i = 0` -/
def NoEdge (E : Params P) (x : XKey P) (kt : KeyType) (idxs : List Nat) : Prop :=
  match kt with
  | .priv => NoEdgePriv E x idxs
  | .pub => NoEdgePub E (toPublic E x) idxs

end steps

section commute
variable {P : Type}
open CG.Spec.Bip32 (neuter hardened)

/-- the group facts used by the commutation theorem; `inf_iff`: the order of `G` is exactly `n` -/
structure GroupLaws (E : Params P) : Prop where
  point_add : ∀ a b, E.point (a + b) = E.add (E.point a) (E.point b)
  point_n : E.point Spec.Bip32.n = E.point 0
  inf_iff : ∀ m, m < Spec.Bip32.n → (E.isInfinity (E.point m) = true ↔ m = 0)

theorem point_mul_add (E : Params P) (L : GroupLaws E) : ∀ (q r : Nat), E.point (Spec.Bip32.n * q + r) = E.point r
  | 0, r => by simp
  | q + 1, r => by
    have h : Spec.Bip32.n * (q + 1) + r = Spec.Bip32.n * q + (Spec.Bip32.n + r) := by
      rw [Nat.mul_succ]
      omega
    rw [h, point_mul_add E L q, L.point_add, L.point_n, ← L.point_add, Nat.zero_add]

theorem point_mod (E : Params P) (L : GroupLaws E) (a : Nat) : E.point (a % Spec.Bip32.n) = E.point a := by
  conv => rhs; rw [← Nat.div_add_mod a Spec.Bip32.n]
  rw [point_mul_add E L]

theorem ckd_commute (E : Params P) (L : GroupLaws E) (k : Nat) (c : Bytes) (i : Nat) (hi : hardened i = false) :
    (ckdPriv E k c i).map (fun r => neuter E r.1 r.2) = ckdPub E (E.point k) c i := by
  have hI : privI E k c i = pubI E (E.point k) c i := by simp [privI, pubI, hi]
  unfold ckdPriv ckdPub
  simp only [hi, Bool.false_eq_true, ↓reduceIte, hI]
  generalize Spec.Bip32.parse256 ((pubI E (E.point k) c i).take 32) = il
  have hlt := Nat.mod_lt (il + k) spec_n_pos
  have hK : E.add (E.point il) (E.point k) = E.point ((il + k) % Spec.Bip32.n) := by
    rw [point_mod E L, L.point_add]
  simp only [hK, L.inf_iff _ hlt]
  split <;> simp [neuter]

theorem toPublic_toPublic (E : Params P) (x : XKey P) : toPublic E (toPublic E x) = toPublic E x := by
  simp [toPublic, pubPoint]

theorem child_commute (E : Params P) (L : GroupLaws E) (x : XKey P) (k : Nat) (hk : x.key = .priv k) (i : Nat)
    (hi : hardened i = false) :
    (childPriv E x i).map (toPublic E) = childPub E (toPublic E x) i := by
  have hc := ckd_commute E L k x.chain i hi
  unfold childPriv childPub
  simp only [hk, toPublic, pubPoint]
  split
  · rfl
  · cases h1 : ckdPriv E k x.chain i with
    | none =>
      rw [h1] at hc
      simp at hc
      simp [← hc]
    | some r =>
      obtain ⟨ki, ci⟩ := r
      rw [h1] at hc
      simp at hc
      simp [← hc, neuter, toPublic, pubPoint, Spec.Bip32.fingerprint, hk]

end commute

section extras
open CG.Spec.Bip32 (Params XKey KeyMat)

theorem n_pos : 0 < n := by decide

def toyPoint (x : Nat) : Fin n := ⟨x % n, Nat.mod_lt _ n_pos⟩

/-- toy parameters for witnesses and non-vacuity: the group `ℤ/n`, `G = 1`, a "point" serialised as
    `02 ‖ ser256`, an HMAC that returns a fixed `I` with `I_L = il` -/
def toyOps (il : Nat) : Ops (Fin n) where
  hmac := fun _ _ => natBE 32 il ++ List.replicate 32 7
  hash160 := fun _ => List.replicate 20 9
  mulG := toyPoint
  add := fun a b => toyPoint (a.val + b.val)
  isId := fun p => p.val == 0
  ser := fun p => 2 :: natBE 32 p.val
  parse := fun b => some (toyPoint (beNat (b.drop 1)))

def toyKey (key : KeyMat (Fin n)) : XKey (Fin n) :=
  { net := .main, depth := 0, parentFp := [0, 0, 0, 0], childNum := 0, chain := List.replicate 32 1, key := key }

theorem toyOps_ok (il : Nat) : OpsOK (toyOps il) where
  ser_len := by intro p _; simp [toyOps]
  mulG_ne_id := by
    intro x h0 hn
    simp only [toyOps, toyPoint, beq_eq_false_iff_ne, ne_eq]
    rw [Nat.mod_eq_of_lt hn]
    omega
  parse_ser := by
    intro p _
    have hp := p.isLt
    have h256 : n < 256 ^ 32 := by decide
    simp only [toyOps, List.drop_succ_cons, List.drop_zero, beNat_natBE, toyPoint, Option.some.injEq]
    apply Fin.ext
    simp only
    rw [Nat.mod_eq_of_lt (show p.val < 256 ^ 32 by omega), Nat.mod_eq_of_lt hp]
  hmac_len := by intro k m; simp [toyOps]
  hash_len := by intro b; simp [toyOps]

theorem toyKey_wf (il : Nat) (key : KeyMat (Fin n)) (hk : ∀ k, key = .priv k → 0 < k ∧ k < n)
    (hK : ∀ K, key = .pub K → K.val ≠ 0) : XWF (toyOps il) (toyKey key) where
  depth := by simp [toyKey]
  fp := rfl
  idx := by simp [toyKey]
  chain := by simp [toyKey]
  key := hk
  pubkey := by intro K h; simpa [toyOps] using hK K h

theorem toy_groupLaws (il : Nat) : GroupLaws (toParams (toyOps il)) where
  point_add := by
    intro a b
    apply Fin.ext
    simp [toParams, toyOps, toyPoint, Nat.add_mod]
  point_n := by
    apply Fin.ext
    simp [toParams, toyOps, toyPoint, n_eq]
  inf_iff := by
    intro m hm
    rw [n_eq] at hm
    simp [toParams, toyOps, toyPoint, Nat.mod_eq_of_lt hm]

end extras

end CG.Proofs.Bip32
