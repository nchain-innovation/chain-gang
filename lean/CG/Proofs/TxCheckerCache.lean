import CG.Proofs.TxChecker
import CG.Props.C02
/-!
Helper lemmas for `CG.Props.TxChecker` about the real `TransactionChecker` model.

* its verdicts do not depend on which VALID signature-hash cache it holds, and it keeps the cache valid
  (`txChecker_insensitive`, from `C02_cache_invariant` applied to one request);
* it never panics when `input < tx.inputs.length` (`txChecker_neverPanics`, from `C02_never_panics`);
* hence the input loop of `Tx::validate` with ONE shared cache computes the same verdict as the loop of
  C04's model with the per-input verdicts computed from a FRESH cache each (`scriptLoopSt_eq`).
-/
namespace CG.Proofs.TxChecker
open CG CG.Model.Interp CG.Model.ScriptNum CG.Model.TxChecker
open CG.Model.Sighash (Cache sighash)
open CG.Proofs.Sighash (CacheOk cacheOk_empty)

/-- `C02_cache_invariant` for the one-element request list -/
theorem sighash_cache (H : Bytes → Bytes) (tx : CG.Model.TxSer.Tx) (n : Nat) (code : Bytes) (k : Nat)
    (sat : Int) (ty : UInt8) (c : Cache) (hc : CacheOk H tx c) :
    (sighash H tx n code k sat ty c).1 = (sighash H tx n code k sat ty Cache.empty).1 ∧
    CacheOk H tx (sighash H tx n code k sat ty c).2 := by
  obtain ⟨h1, h2⟩ := CG.Props.C02.C02_cache_invariant H tx [⟨.digest, n, code, k, sat, ty⟩] c hc
  have e : ∀ c0 : Cache, CG.Model.Sighash.run H tx c0 [⟨.digest, n, code, k, sat, ty⟩]
      = ((sighash H tx n code k sat ty c0).2, [(sighash H tx n code k sat ty c0).1]) := by
    intro c0
    simp only [CG.Model.Sighash.run, CG.Model.Sighash.runWith, CG.Model.Sighash.answerWith, sighash]
  rw [e c] at h1 h2
  rw [e Cache.empty] at h1
  simp only [List.cons.injEq, and_true] at h1
  exact ⟨h1, h2⟩

variable {Sig Key : Type}

/-- `check_sig` by the last byte of the signature: a hash type that meets the FORKID requirement leaves the
    cache as `sighash` leaves it and the verdict is `verify` on that digest; no last byte, or a type that
    fails the requirement, is a script error with the cache untouched -/
theorem checkSig_cases (dsha : Bytes → Bytes) (K : K256 Sig Key) (x : Ctx) (c : Cache) (sig pk scr : Bytes) :
    (∀ ty, sig.getLast? = some ty →
      ¬ (x.requireForkid = true ∧ ty &&& CG.Model.Sighash.SIGHASH_FORKID = 0) →
      (checkSig dsha K x c sig pk scr).2 = (sighash dsha x.tx x.input scr 0 x.satoshis ty c).2 ∧
      (checkSig dsha K x c sig pk scr).1 =
        match (sighash dsha x.tx x.input scr 0 x.satoshis ty c).1 with
        | .err e => .err e
        | .panic p => .panic p
        | .ok digest =>
          match K.parseSig sig.dropLast with
          | none => k256Err
          | some s =>
            match K.parseKey pk with
            | none => k256Err
            | some k => .ok (K.verify k digest s)) ∧
    (sig.getLast? = none → checkSig dsha K x c sig pk scr = (scriptErr, c)) ∧
    (∀ ty, sig.getLast? = some ty → (x.requireForkid = true ∧ ty &&& CG.Model.Sighash.SIGHASH_FORKID = 0) →
      checkSig dsha K x c sig pk scr = (scriptErr, c)) := by
  refine ⟨?_, ?_, ?_⟩
  · intro ty hty hf
    unfold checkSig
    simp only [hty, hf, if_false]
    rcases sighash dsha x.tx x.input scr 0 x.satoshis ty c with ⟨o, c1⟩
    cases o with
    | err e => exact ⟨rfl, rfl⟩
    | panic p => exact ⟨rfl, rfl⟩
    | ok d =>
      simp only []
      cases K.parseSig sig.dropLast with
      | none => exact ⟨rfl, rfl⟩
      | some s =>
        simp only []
        cases K.parseKey pk with
        | none => exact ⟨rfl, rfl⟩
        | some k => exact ⟨rfl, rfl⟩
  · intro h
    unfold checkSig
    simp only [h]
  · intro ty hty hf
    unfold checkSig
    simp only [hty, hf, and_self, if_true]

theorem txChecker_insensitive (dsha : Bytes → Bytes) (K : K256 Sig Key) (x : Ctx) :
    Insensitive (txChecker dsha K x) (CacheOk dsha x.tx) where
  sig := by
    intro c c' sg pk scr hc hc'
    show (checkSig dsha K x c sg pk scr).1 = (checkSig dsha K x c' sg pk scr).1
    obtain ⟨a1, a2, a3⟩ := checkSig_cases dsha K x c sg pk scr
    obtain ⟨b1, b2, b3⟩ := checkSig_cases dsha K x c' sg pk scr
    cases hl : sg.getLast? with
    | none => rw [a2 hl, b2 hl]
    | some ty =>
      by_cases hf : x.requireForkid = true ∧ ty &&& CG.Model.Sighash.SIGHASH_FORKID = 0
      · rw [a3 ty hl hf, b3 ty hl hf]
      · rw [(a1 ty hl hf).2, (b1 ty hl hf).2,
          (sighash_cache dsha x.tx x.input scr 0 x.satoshis ty c hc).1,
          (sighash_cache dsha x.tx x.input scr 0 x.satoshis ty c' hc').1]
  inv := by
    intro c sg pk scr hc
    show CacheOk dsha x.tx (checkSig dsha K x c sg pk scr).2
    obtain ⟨a1, a2, a3⟩ := checkSig_cases dsha K x c sg pk scr
    cases hl : sg.getLast? with
    | none => rw [a2 hl]; exact hc
    | some ty =>
      by_cases hf : x.requireForkid = true ∧ ty &&& CG.Model.Sighash.SIGHASH_FORKID = 0
      · rw [a3 ty hl hf]; exact hc
      · rw [(a1 ty hl hf).1]
        exact (sighash_cache dsha x.tx x.input scr 0 x.satoshis ty c hc).2
  lt := fun _ _ _ => rfl
  sq := fun _ _ _ => rfl

theorem txChecker_neverPanics (dsha : Bytes → Bytes) (K : K256 Sig Key) (x : Ctx)
    (hin : x.input < x.tx.inputs.length) : (txChecker dsha K x).NeverPanics := by
  refine ⟨?_, ?_, ?_⟩
  · intro c sg pk scr s
    show (checkSig dsha K x c sg pk scr).1 ≠ .panic s
    obtain ⟨a1, a2, a3⟩ := checkSig_cases dsha K x c sg pk scr
    cases hl : sg.getLast? with
    | none => rw [a2 hl]; simp [scriptErr]
    | some ty =>
      by_cases hf : x.requireForkid = true ∧ ty &&& CG.Model.Sighash.SIGHASH_FORKID = 0
      · rw [a3 ty hl hf]; simp [scriptErr]
      · rw [(a1 ty hl hf).2]
        have hnp := (CG.Props.C02.C02_never_panics dsha x.tx x.input scr 0 x.satoshis ty c).2.2
        cases hd : (sighash dsha x.tx x.input scr 0 x.satoshis ty c).1 with
        | err e => simp
        | panic p => exact absurd hd (hnp p)
        | ok d =>
          simp only []
          cases K.parseSig sg.dropLast with
          | none => simp [k256Err]
          | some sv =>
            simp only []
            cases K.parseKey pk with
            | none => simp [k256Err]
            | some kv => simp
  · intro c t s
    show checkLocktime x t ≠ .panic s
    have hi : x.tx.inputs[x.input]? = some x.tx.inputs[x.input] := List.getElem?_eq_getElem hin
    unfold checkLocktime
    simp only [hi]
    exact Outcome.ite_ne_panic nofun (Outcome.ite_ne_panic nofun (Outcome.ite_ne_panic nofun
      (Outcome.ite_ne_panic nofun nofun)))
  · intro c t s
    show checkSequence x t ≠ .panic s
    have hi : x.tx.inputs[x.input]? = some x.tx.inputs[x.input] := List.getElem?_eq_getElem hin
    unfold checkSequence
    simp only [hi]
    exact Outcome.ite_ne_panic nofun (Outcome.ite_ne_panic nofun (Outcome.ite_ne_panic nofun
      (Outcome.ite_ne_panic nofun (Outcome.ite_ne_panic nofun (Outcome.ite_ne_panic nofun nofun)))))

theorem toSer_inputs_length (tx : CG.Model.TxValidate.Tx) : (toSer tx).inputs.length = tx.inputs.length := by
  simp [toSer]

/-- `validateInputSt` from a valid cache, in terms of C03's `validateInput` from the EMPTY cache -/
theorem validateInputSt_fresh (E : Env Sig Key) (x : Ctx) (c : Cache) (hc : CacheOk E.dsha x.tx c)
    (unlock lock : Bytes) (flags : Nat) :
    match validateInputSt E.H (txChecker E.dsha E.K x) c unlock lock flags with
    | .ok c' => CacheOk E.dsha x.tx c' ∧
        CG.Model.TxScript.validateInput E.H (txChecker E.dsha E.K x) Cache.empty unlock lock flags = .ok ()
    | .err e => CG.Model.TxScript.validateInput E.H (txChecker E.dsha E.K x) Cache.empty unlock lock flags = .err e
    | .panic p => CG.Model.TxScript.validateInput E.H (txChecker E.dsha E.K x) Cache.empty unlock lock flags = .panic p := by
  have hrel := validateInputSt_rel (txChecker_insensitive E.dsha E.K x) E.H c Cache.empty hc
    (cacheOk_empty E.dsha x.tx) unlock lock flags
  rw [validateInput_eq]
  refine hrel.elim (fun _ _ h => ⟨h.1, rfl⟩) (fun _ => rfl) (fun _ => rfl)

open CG.Model.TxValidate in
theorem scriptLoopSt_eq (E : Env Sig Key) (tx : Tx) (utxos : Utxos) :
    ∀ (ins : List TxIn) (i : Nat) (c : Cache), tx.inputs.drop i = ins → CacheOk E.dsha (toSer tx) c →
      scriptLoopSt E tx utxos i ins c = scriptLoop utxos (freshInput E tx utxos) i ins := by
  intro ins
  induction ins with
  | nil => intro i c _ _; rfl
  | cons tin rest ih =>
    intro i c hd hc
    have hi : tx.inputs[i]? = some tin := by
      have := congrArg List.head? hd
      simpa [List.head?_drop] using this
    have hrest : tx.inputs.drop (i + 1) = rest := by
      have := congrArg List.tail hd
      simpa [List.tail_drop] using this
    unfold scriptLoopSt scriptLoop
    cases hu : utxos tin.prevOutput with
    | none => rfl
    | some out =>
      simp only []
      have hf := validateInputSt_fresh E (ctxOf E tx i out) c hc tin.unlockScript out.lockScript
        (flagsFor E.useGenesis (E.pregenesis tin.prevOutput))
      have hfresh : freshInput E tx utxos i =
          match CG.Model.TxScript.validateInput E.H (txChecker E.dsha E.K (ctxOf E tx i out)) Cache.empty
              tin.unlockScript out.lockScript (flagsFor E.useGenesis (E.pregenesis tin.prevOutput)) with
          | .ok () => .ok true
          | .err e => .err e
          | .panic p => .panic p := by
        unfold freshInput
        simp only [hi, hu]
        cases CG.Model.TxScript.validateInput E.H (txChecker E.dsha E.K (ctxOf E tx i out)) Cache.empty
            tin.unlockScript out.lockScript (flagsFor E.useGenesis (E.pregenesis tin.prevOutput)) with
        | ok u => rfl
        | err e => rfl
        | panic p => rfl
      rw [hfresh]
      cases hv : validateInputSt E.H (txChecker E.dsha E.K (ctxOf E tx i out)) c tin.unlockScript
          out.lockScript (flagsFor E.useGenesis (E.pregenesis tin.prevOutput)) with
      | ok c' =>
        rw [hv] at hf
        simp only [] at hf
        rw [hf.2]
        exact ih (i + 1) c' hrest hf.1
      | err e =>
        rw [hv] at hf
        simp only [] at hf
        rw [hf]
      | panic p =>
        rw [hv] at hf
        simp only [] at hf
        rw [hf]

end CG.Proofs.TxChecker
