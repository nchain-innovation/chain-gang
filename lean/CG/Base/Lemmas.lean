import CG.Base.Bytes
/-!
Facts about outcomes, bytes and little-endian numbers that do not belong to any one model and that
several proof modules use.
-/
namespace CG

/-- A property of all bytes, checked on the 256 values `UInt8.ofNat i` (the form a kernel sweep
    over `Fin 256` produces).  Declared inside `namespace CG`: the full name is `CG.UInt8.forall_of_fin`. -/
theorem UInt8.forall_of_fin {P : UInt8 → Prop} (h : ∀ i : Fin 256, P (UInt8.ofNat i.val)) (b : UInt8) : P b := by
  simpa using h ⟨b.toNat, b.toNat_lt⟩

/-- core's `UInt8.toNat_ofNat_of_lt'` with the bound written as the numeral, so that `omega` can supply it -/
theorem toNat_ofNat_lt {k : Nat} (h : k < 256) : (UInt8.ofNat k).toNat = k := UInt8.toNat_ofNat_of_lt' h

theorem byte_ne_zero_toNat {d : UInt8} (h : d ≠ 0) : d.toNat ≠ 0 :=
  fun hc => h (UInt8.toNat_inj.mp hc)

theorem ofNat_congr {a b : Nat} (h : a % 256 = b % 256) : UInt8.ofNat a = UInt8.ofNat b := by
  apply UInt8.toNat_inj.mp
  simpa [UInt8.toNat_ofNat'] using h

namespace Outcome
variable {α β : Type}

theorem cases (o : Outcome α) : (∃ a, o = .ok a) ∨ (∃ e, o = .err e) ∨ (∃ s, o = .panic s) := by
  cases o <;> simp

theorem bind_eq_ok {o : Outcome α} {f : α → Outcome β} {b : β} :
    o.bind f = .ok b ↔ ∃ a, o = .ok a ∧ f a = .ok b := by
  cases o <;> simp [bind]

theorem bind_ne_panic {o : Outcome α} {f : α → Outcome β} (ho : ∀ s, o ≠ .panic s) (hf : ∀ a s, f a ≠ .panic s) :
    ∀ s, o.bind f ≠ .panic s := by
  cases o with
  | ok a => exact hf a
  | err e => simp [bind]
  | panic s => exact absurd rfl (ho s)

theorem map_eq_ok {o : Outcome α} {f : α → β} {b : β} : o.map f = .ok b ↔ ∃ a, o = .ok a ∧ b = f a := by
  cases o <;> simp [map, eq_comm]

theorem map_ne_panic {o : Outcome α} {f : α → β} (ho : ∀ s, o ≠ .panic s) : ∀ s, o.map f ≠ .panic s := by
  cases o with
  | panic s => exact absurd rfl (ho s)
  | _ => simp [map]

theorem ite_ne_panic {c : Prop} [Decidable c] {a b : Outcome α} {s : String} (ha : a ≠ .panic s) (hb : b ≠ .panic s) :
    (if c then a else b) ≠ .panic s := by
  split <;> assumption

/-- outcomes of the same kind -/
inductive Rel (R : α → β → Prop) : Outcome α → Outcome β → Prop
  | ok {a : α} {b : β} : R a b → Rel R (.ok a) (.ok b)
  | err (e : String) : Rel R (.err e) (.err e)
  | panic (p : String) : Rel R (.panic p) (.panic p)

/-- case analysis on related outcomes, whatever expressions they are -/
@[elab_as_elim]
theorem Rel.elim {R : α → β → Prop} {motive : Outcome α → Outcome β → Prop}
    (ok : ∀ a b, R a b → motive (.ok a) (.ok b)) (err : ∀ e, motive (.err e) (.err e))
    (panic : ∀ p, motive (.panic p) (.panic p)) {x : Outcome α} {y : Outcome β} (h : Rel R x y) : motive x y := by
  cases h with
  | ok h => exact ok _ _ h
  | err e => exact err e
  | panic p => exact panic p

end Outcome

theorem getD_append_left {α} (a b : List α) (d : α) {i : Nat} (h : i < a.length) : (a ++ b).getD i d = a.getD i d := by
  simp [List.getD_eq_getElem?_getD, List.getElem?_append_left h]

theorem getD_append_right {α} (a b : List α) (d : α) (i : Nat) : (a ++ b).getD (a.length + i) d = b.getD i d := by
  simp [List.getD_eq_getElem?_getD, List.getElem?_append_right]

theorem getD_append_cons {α} (a : List α) (x : α) (b : List α) (d : α) : (a ++ x :: b).getD a.length d = x :=
  getD_append_right a (x :: b) d 0

theorem getD_mem_or_default {α} (l : List α) (i : Nat) (d : α) : l.getD i d ∈ l ∨ l.getD i d = d := by
  by_cases h : i < l.length
  · left; simp [List.getD_eq_getElem?_getD, List.getElem?_eq_getElem h]
  · right; simp [List.getD_eq_getElem?_getD, List.getElem?_eq_none (Nat.le_of_not_lt h)]

theorem list_snoc_of_ne_nil {α} (s : List α) (h : s ≠ []) : ∃ init d, s = init ++ [d] :=
  ⟨s.dropLast, s.getLast h, (List.dropLast_concat_getLast h).symm⟩

theorem take_drop_append {α} (a d r : List α) : ((a ++ d ++ r).drop a.length).take d.length = d := by
  simp [List.append_assoc]

theorem pow256 (k : Nat) : (256 : Nat) ^ k = 2 ^ (8 * k) := (Nat.pow_mul 2 8 k).symm

theorem leToNat_snoc (init : Bytes) (d : UInt8) : leToNat (init ++ [d]) = leToNat init + 256 ^ init.length * d.toNat := by
  simp [leToNat_append, leToNat]

theorem leToNat_replicate_zero (k : Nat) : leToNat (List.replicate k (0 : UInt8)) = 0 := by
  induction k with
  | zero => rfl
  | succ k ih => simp [List.replicate_succ, leToNat, ih]

theorem leToNat_eq_zero_iff (l : Bytes) : leToNat l = 0 ↔ ∀ b ∈ l, b = 0 := by
  induction l with
  | nil => simp [leToNat]
  | cons x xs ih =>
    have hx : x = 0 ↔ x.toNat = 0 := by rw [← UInt8.toNat_inj]; rfl
    rw [List.forall_mem_cons, ← ih, hx, leToNat]
    omega

theorem leToNat_natToLEn_of_lt {w n : Nat} (h : n < 256 ^ w) : leToNat (natToLEn w n) = n :=
  (leToNat_natToLEn w n).trans (Nat.mod_eq_of_lt h)

/-- the `k+1`-byte encoding of a number with `n` added at byte `k`: the low `k` bytes are unaffected -/
theorem natToLEn_add_top (k p n : Nat) :
    natToLEn (k + 1) (p + 256 ^ k * n) = natToLEn k p ++ [UInt8.ofNat (p / 256 ^ k + n)] := by
  induction k generalizing p with
  | zero =>
    simp only [natToLEn, Nat.pow_zero, Nat.one_mul, Nat.div_one, List.nil_append, List.cons.injEq, and_true]
    exact ofNat_congr (Nat.mod_mod _ _)
  | succ k ih =>
    have e1 : (p + 256 ^ (k + 1) * n) % 256 = p % 256 := by
      rw [Nat.pow_succ, Nat.mul_right_comm, Nat.add_mul_mod_self_right]
    have e2 : (p + 256 ^ (k + 1) * n) / 256 = p / 256 + 256 ^ k * n := by
      rw [Nat.pow_succ, Nat.mul_right_comm, Nat.add_mul_div_right _ _ (by decide)]
    rw [natToLEn, e1, e2, ih, natToLEn, List.cons_append, Nat.div_div_eq_div_mul, Nat.pow_succ,
      Nat.mul_comm 256]

theorem natToLEn_succ_snoc (n x : Nat) : natToLEn (n + 1) x = natToLEn n x ++ [UInt8.ofNat (x / 256 ^ n % 256)] := by
  rw [ofNat_congr (Nat.mod_mod (x / 256 ^ n) 256)]
  exact natToLEn_add_top n x 0

theorem natToLEn_inj {n x y : Nat} (hx : x < 256 ^ n) (hy : y < 256 ^ n) (h : natToLEn n x = natToLEn n y) : x = y := by
  have := congrArg leToNat h
  rwa [leToNat_natToLEn, leToNat_natToLEn, Nat.mod_eq_of_lt hx, Nat.mod_eq_of_lt hy] at this

end CG
