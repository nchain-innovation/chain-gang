/-!
Base definitions: byte strings, little-endian integers, outcomes.
Import-free (core Lean only) so that the driver executable links.
-/
namespace CG

abbrev Bytes := List UInt8

/-- Outcome of a modelled Rust function: a value, an `Err(..)` of some class, or a panic at a
    named site.  "Never panics" is a theorem `f x ≠ .panic _`, not a by-product of totality. -/
inductive Outcome (α : Type) where
  | ok (a : α)
  | err (e : String)
  | panic (site : String)
deriving Repr, DecidableEq, Inhabited

namespace Outcome
def bind {α β} (o : Outcome α) (f : α → Outcome β) : Outcome β :=
  match o with
  | ok a => f a
  | err e => err e
  | panic s => panic s
def map {α β} (f : α → β) : Outcome α → Outcome β
  | ok a => ok (f a)
  | err e => err e
  | panic s => panic s
def isPanic {α} : Outcome α → Bool
  | panic _ => true
  | _ => false
def isOk {α} : Outcome α → Bool
  | ok _ => true
  | _ => false
instance : Monad Outcome where
  pure := ok
  bind := bind
end Outcome

/-- value of a little-endian byte string -/
def leToNat : Bytes → Nat
  | [] => 0
  | b :: r => b.toNat + 256 * leToNat r

/-- `n`-byte little-endian encoding (truncating, like Rust's `as u8` chains / byteorder). -/
def natToLEn : Nat → Nat → Bytes
  | 0, _ => []
  | n + 1, x => UInt8.ofNat (x % 256) :: natToLEn n (x / 256)

/-- minimal little-endian digits of a natural number (`[]` for 0). -/
def natToLE (n : Nat) : Bytes :=
  if h : n = 0 then [] else UInt8.ofNat (n % 256) :: natToLE (n / 256)
termination_by n
decreasing_by omega

@[simp] theorem natToLEn_length (n x : Nat) : (natToLEn n x).length = n := by
  induction n generalizing x with
  | zero => rfl
  | succ n ih => simp [natToLEn, ih]

theorem leToNat_natToLEn (n x : Nat) : leToNat (natToLEn n x) = x % 256 ^ n := by
  induction n generalizing x with
  | zero => rw [Nat.pow_zero, Nat.mod_one]; rfl
  | succ n ih =>
    rw [natToLEn, leToNat, ih, UInt8.toNat_ofNat', Nat.mod_eq_of_lt (a := x % 256) (Nat.mod_lt _ (by decide)),
      Nat.pow_succ, Nat.mul_comm (256 ^ n) 256, Nat.mod_mul]

theorem leToNat_lt (b : Bytes) : leToNat b < 256 ^ b.length := by
  induction b with
  | nil => simp [leToNat]
  | cons x xs ih =>
    simp only [leToNat, List.length_cons, Nat.pow_succ]
    have := x.toNat_lt
    omega

theorem leToNat_append (a b : Bytes) : leToNat (a ++ b) = leToNat a + 256 ^ a.length * leToNat b := by
  induction a with
  | nil => simp [leToNat]
  | cons x xs ih => simp [leToNat, ih, Nat.pow_succ, Nat.mul_add, Nat.add_assoc]; ac_rfl

theorem natToLEn_leToNat (b : Bytes) : natToLEn b.length (leToNat b) = b := by
  induction b with
  | nil => rfl
  | cons x xs ih =>
    have hx := x.toNat_lt
    rw [List.length_cons, leToNat, natToLEn, Nat.add_mul_mod_self_left, Nat.mod_eq_of_lt hx,
      Nat.add_mul_div_left _ _ (by decide), Nat.div_eq_of_lt hx, Nat.zero_add, ih, UInt8.ofNat_toNat]

theorem leToNat_natToLE (n : Nat) : leToNat (natToLE n) = n := by
  induction n using Nat.strongRecOn with
  | _ n ih =>
    rw [natToLE]
    by_cases h : n = 0
    · rw [dif_pos h, h]; rfl
    · rw [dif_neg h, leToNat, ih (n / 256) (by omega), UInt8.toNat_ofNat',
        Nat.mod_eq_of_lt (a := n % 256) (Nat.mod_lt _ (by decide))]
      exact Nat.mod_add_div n 256

/-- take exactly `n` bytes or fail (models `read_exact`). -/
def takeExact (n : Nat) (b : Bytes) : Option (Bytes × Bytes) :=
  if n ≤ b.length then some (b.take n, b.drop n) else none

theorem takeExact_append (a r : Bytes) : takeExact a.length (a ++ r) = some (a, r) := by
  simp [takeExact]

theorem takeExact_some {n : Nat} {b x r : Bytes} (h : takeExact n b = some (x, r)) :
    b = x ++ r ∧ x.length = n := by
  unfold takeExact at h
  by_cases hn : n ≤ b.length
  · rw [if_pos hn] at h
    cases h
    exact ⟨(List.take_append_drop n b).symm, List.length_take_of_le hn⟩
  · rw [if_neg hn] at h
    cases h

end CG
