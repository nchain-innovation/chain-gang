import CG.Base.Lemmas
/-!
# Wire codec combinators

A `Codec α` packages the four things every Rust payload type has:
`write` (`enc`), `read` (`dec`), `size` and the in-range predicate of its field values (`wf`,
decidable).  Every `read`/`write`/`size` triple of `src/messages/*.rs` is ONE combinator expression
(see `Messages.lean`); the laws of the combinators are proved once in `CG.Proofs.WireCodec`.

Decoders work on the unread part of a `Cursor<Vec<u8>>`: `dec b = .ok (a, r)` means the value `a`
was read and `r` is what the cursor has not consumed.  Error classes are the `ChainGangError`
variant names: `"IoError"` (short read, `UnexpectedEof`), `"BadData"`, `"Utf8Error"`.

Cursor fact used by the `if let Ok(..) = read…` sites: `Cursor::read_exact` that fails leaves the
cursor at END OF INPUT (std ≥ 1.80), so a swallowed short read is followed by an empty rest.

Allocation patterns of the Rust code each have their own named combinator so that C06 can
re-interpret them with allocation logging:
* `vecBytes n` … `vec![0; n]` + `read_exact` (via `varBytes`, `u8Bytes`, `assocDec`, `policyOpt`,
  Authch, Reject);  `bytesN n` … fixed `[u8; n]` / `Hash256` / 6-byte short ids
* `listCap` … `Vec::with_capacity(n)` + push loop;  `listPush` … `Vec::new()` + push loop;
  `listMax` … count checked against a limit first;  `listTry` … `if let Ok(n) = var_int::read`
  (all four decode with `decN`, one element per iteration).

Laws (`CG.Proofs.WireCodec`): `Lawful c` — `dec (enc a ++ r) = ok (a, r)` for `wf a`,
`(enc a).length = size a`, `dec b = ok (a, r) → wf a`, `dec b = ok (a, r) → ∃ p, b = p ++ r`;
`LawfulEnd c` — the same with `r = []` only, for codecs whose last field is optional
(`assocOpt`, `policyOpt`); both are cases of `LawfulOn P c` (the rest satisfies `P`), in which the
laws of the combinators are proved.  Every combinator has a `…_lawful` lemma, so the lawfulness
proof of a message codec is the same expression as its definition with `_lawful` appended.
-/
namespace CG.Model.Wire
open CG

@[simp] theorem bind_ok {α β} (a : α) (f : α → Outcome β) : (Outcome.ok a).bind f = f a := rfl
@[simp] theorem bind_err {α β} (e : String) (f : α → Outcome β) :
    (Outcome.err e : Outcome α).bind f = .err e := rfl
@[simp] theorem bind_panic {α β} (e : String) (f : α → Outcome β) :
    (Outcome.panic e : Outcome α).bind f = .panic e := rfl

theorem bind_eq_ok {α β} {o : Outcome α} {f : α → Outcome β} {x : β} :
    o.bind f = .ok x ↔ ∃ a, o = .ok a ∧ f a = .ok x := Outcome.bind_eq_ok

/-! ## single-pass `takeExact` for the compiled driver

`CG.takeExact` measures the whole rest of the input on every call (`n ≤ b.length`), which is
quadratic on long lists; the compiled code uses this equal single-pass form instead. -/

def takeExactGo : Nat → Bytes → Bytes → Option (Bytes × Bytes)
  | 0, b, acc => some (acc.reverse, b)
  | _ + 1, [], _ => none
  | n + 1, x :: b, acc => takeExactGo n b (x :: acc)

def takeExactFast (n : Nat) (b : Bytes) : Option (Bytes × Bytes) := takeExactGo n b []

theorem takeExactGo_eq (n : Nat) (b acc : Bytes) :
    takeExactGo n b acc = if n ≤ b.length then some (acc.reverse ++ b.take n, b.drop n) else none := by
  induction n generalizing b acc with
  | zero => simp [takeExactGo]
  | succ n ih =>
    cases b with
    | nil => simp [takeExactGo]
    | cons x b =>
      simp only [takeExactGo, ih, List.length_cons, Nat.add_le_add_iff_right, List.reverse_cons,
        List.take_succ_cons, List.drop_succ_cons, List.append_assoc, List.singleton_append]

@[csimp] theorem takeExact_eq_fast : @takeExact = @takeExactFast := by
  funext n b
  simp [takeExactFast, takeExactGo_eq, takeExact]

/-! ## The structure -/

structure Codec (α : Type) where
  /-- `write` -/
  enc : α → Bytes
  /-- `read` on the unread part of the cursor -/
  dec : Bytes → Outcome (α × Bytes)
  /-- `size()` -/
  size : α → Nat
  /-- the value is in wire range (what `write` can represent without truncation / panic) -/
  wf : α → Prop
  wfDec : DecidablePred wf

instance {α} (c : Codec α) (a : α) : Decidable (c.wf a) := c.wfDec a

/-- `p` on `some`, `False` on `none` -/
def optWf {α} (p : α → Prop) : Option α → Prop
  | some a => p a
  | none => False

instance {α} (p : α → Prop) [DecidablePred p] : DecidablePred (optWf p)
  | some a => inferInstanceAs (Decidable (p a))
  | none => inferInstanceAs (Decidable False)

/-! ## Integers -/

/-- `n`-byte little-endian unsigned integer (`read_u8`, `read_u16::<LittleEndian>` …). -/
def uLE (n : Nat) : Codec Nat where
  enc x := natToLEn n x
  dec b := match takeExact n b with
    | some (x, r) => .ok (leToNat x, r)
    | none => .err "IoError"
  size _ := n
  wf x := x < 256 ^ n
  wfDec _ := inferInstanceAs (Decidable (_ < _))

def u8 := uLE 1
def u16 := uLE 2
def u32 := uLE 4
def u64 := uLE 8

/-- `n`-byte big-endian unsigned integer (`read_u16::<BigEndian>` for ports). -/
def uBE (n : Nat) : Codec Nat where
  enc x := (natToLEn n x).reverse
  dec b := match takeExact n b with
    | some (x, r) => .ok (leToNat x.reverse, r)
    | none => .err "IoError"
  size _ := n
  wf x := x < 256 ^ n
  wfDec _ := inferInstanceAs (Decidable (_ < _))

def u16be := uBE 2

/-- two's complement: unsigned `u` below modulus `M` as a signed value -/
def toSigned (M u : Nat) : Int := if 2 * u < M then (u : Int) else (u : Int) - (M : Int)
/-- two's complement: signed value as its residue modulo `M` -/
def ofSigned (M : Nat) (x : Int) : Nat := (x % (M : Int)).toNat

/-- `n`-byte little-endian two's-complement integer (`read_i32`, `read_i64`). -/
def iLE (n : Nat) : Codec Int where
  enc x := natToLEn n (ofSigned (256 ^ n) x)
  dec b := ((uLE n).dec b).bind fun p => .ok (toSigned (256 ^ n) p.1, p.2)
  size _ := n
  wf x := -((256 ^ n : Nat) : Int) ≤ 2 * x ∧ 2 * x < ((256 ^ n : Nat) : Int)
  wfDec _ := inferInstanceAs (Decidable (_ ∧ _))

def i32 := iLE 4
def i64 := iLE 8

/-- a `bool` written as `u8::from(b)` and read as `read_u8()? == 0x01` (Version.relay). -/
def boolByte : Codec Bool where
  enc b := [if b then 1 else 0]
  dec b := (u8.dec b).bind fun p => .ok (p.1 == 1, p.2)
  size _ := 1
  wf _ := True
  wfDec _ := inferInstanceAs (Decidable True)

/-- `util::var_int`: `write`, `read` (accepts non-minimal encodings), `size`. -/
def varint : Codec Nat where
  enc n :=
    if n ≤ 252 then natToLEn 1 n
    else if n ≤ 0xffff then 0xfd :: natToLEn 2 n
    else if n ≤ 0xffffffff then 0xfe :: natToLEn 4 n
    else 0xff :: natToLEn 8 n
  dec b := (u8.dec b).bind fun p =>
    if p.1 = 0xff then u64.dec p.2
    else if p.1 = 0xfe then u32.dec p.2
    else if p.1 = 0xfd then u16.dec p.2
    else .ok (p.1, p.2)
  size n := if n ≤ 252 then 1 else if n ≤ 0xffff then 3 else if n ≤ 0xffffffff then 5 else 9
  wf n := n < 2 ^ 64
  wfDec _ := inferInstanceAs (Decidable (_ < _))

/-! ## Bytes -/

/-- exactly `n` raw bytes: `[u8; n]` / `vec![0; n]` followed by `read_exact`. -/
def bytesN (n : Nat) : Codec Bytes where
  enc a := a
  dec b := match takeExact n b with
    | some (x, r) => .ok (x, r)
    | none => .err "IoError"
  size _ := n
  wf a := a.length = n
  wfDec _ := inferInstanceAs (Decidable (_ = _))

/-- `vec![0; n]` + `read_exact` into a `Vec<u8>` field (allocation site for C06); `size()` of such
    a field is its `len()`. -/
def vecBytes (n : Nat) : Codec Bytes := { bytesN n with size := fun a => a.length }

/-- the ignored per-header transaction-count byte of `headers`: written as `0`, read with
    `let _ = reader.read_u8();` (any value, and its absence at end of input, are accepted). -/
def skipByte : Codec Unit where
  enc _ := [0]
  dec b := match b with
    | [] => .ok ((), [])
    | _ :: r => .ok ((), r)
  size _ := 1
  wf _ := True
  wfDec _ := inferInstanceAs (Decidable True)

/-! ## Sequencing -/

/-- dependent pair: the codec of the second component may depend on the first value
    (length prefixes, `if version > 1`, `if message == "block"` …). -/
def dpair {α β} (ca : Codec α) (cb : α → Codec β) : Codec (α × β) where
  enc p := ca.enc p.1 ++ (cb p.1).enc p.2
  dec b := (ca.dec b).bind fun x => ((cb x.1).dec x.2).bind fun y => .ok ((x.1, y.1), y.2)
  size p := ca.size p.1 + (cb p.1).size p.2
  wf p := ca.wf p.1 ∧ (cb p.1).wf p.2
  wfDec p := @instDecidableAnd _ _ (ca.wfDec p.1) ((cb p.1).wfDec p.2)

def pair {α β} (ca : Codec α) (cb : Codec β) : Codec (α × β) := dpair ca (fun _ => cb)

scoped infixr:60 " ⊗ " => pair

/-- change of representation along `f : α → β` with partial inverse `g` (structure ↔ tuple,
    `Message` variant ↔ payload, dropping a redundant length). -/
def inj {α β} (c : Codec α) (f : α → β) (g : β → Option α) (dflt : α) : Codec β where
  enc b := c.enc ((g b).getD dflt)
  dec x := (c.dec x).bind fun p => .ok (f p.1, p.2)
  size b := c.size ((g b).getD dflt)
  wf b := optWf c.wf (g b)
  wfDec b := inferInstanceAs (Decidable (optWf c.wf (g b)))

/-- total change of representation -/
def iso {α β} (c : Codec α) (f : α → β) (g : β → α) : Codec β where
  enc b := c.enc (g b)
  dec x := (c.dec x).bind fun p => .ok (f p.1, p.2)
  size b := c.size (g b)
  wf b := c.wf (g b)
  wfDec b := c.wfDec (g b)

/-- decode, then reject with error class `e` unless `p` holds (`validate()`, `from_utf8`,
    `count > MAX`). -/
def refine {α} (c : Codec α) (p : α → Bool) (e : String) : Codec α where
  enc := c.enc
  dec b := (c.dec b).bind fun x => if p x.1 then .ok x else .err e
  size := c.size
  wf a := c.wf a ∧ p a = true
  wfDec a := @instDecidableAnd _ _ (c.wfDec a) (inferInstanceAs (Decidable (_ = _)))

/-- decode, then run a `validate()` that may return an error (or panic); its verdict is returned
    in place of the value unless it is `Ok(())`. -/
def validated {α} (c : Codec α) (v : α → Outcome Unit) : Codec α where
  enc := c.enc
  dec b := (c.dec b).bind fun x => (v x.1).bind fun _ => .ok x
  size := c.size
  wf a := c.wf a ∧ v a = .ok ()
  wfDec a := @instDecidableAnd _ _ (c.wfDec a) (inferInstanceAs (Decidable (_ = _)))

/-- read with `c` (propagating its errors), then fail with `e`; nothing is ever written. -/
def failAfter {α β} (c : Codec α) (e : String) : Codec β where
  enc _ := []
  dec b := (c.dec b).bind fun _ => .err e
  size _ := 0
  wf _ := False
  wfDec _ := inferInstanceAs (Decidable False)

/-- a field whose value is determined (`k`); any other value read is error `e`. -/
def constC (c : Codec Nat) (k : Nat) (e : String) : Codec Unit where
  enc _ := c.enc k
  dec b := (c.dec b).bind fun p => if p.1 = k then .ok ((), p.2) else .err e
  size _ := c.size k
  wf _ := c.wf k
  wfDec _ := c.wfDec k

/-- `Option` field whose presence is decided by an earlier field. -/
def optionC {α} (present : Bool) (c : Codec α) (dflt : α) : Codec (Option α) :=
  if present then inj c some id dflt
  else
    { enc := fun _ => [], dec := fun b => .ok (none, b), size := fun _ => 0,
      wf := fun o => o = none,
      wfDec := fun o => match o with
        | none => isTrue rfl
        | some _ => isFalse (by simp) }

/-! ## Repetition -/

/-- `for _ in 0..n { v.push(T::read(reader)?) }` -/
def decN {α} (c : Codec α) : Nat → Bytes → Outcome (List α × Bytes)
  | 0, b => .ok ([], b)
  | n + 1, b =>
    match c.dec b with
    | .ok (a, r) =>
      match decN c n r with
      | .ok (as, r') => .ok (a :: as, r')
      | .err e => .err e
      | .panic s => .panic s
    | .err e => .err e
    | .panic s => .panic s

/-- tail-recursive form used by the compiled driver (65 536-element lists) -/
def decNTR {α} (c : Codec α) : Nat → Bytes → List α → Outcome (List α × Bytes)
  | 0, b, acc => .ok (acc.reverse, b)
  | n + 1, b, acc =>
    match c.dec b with
    | .ok (a, r) => decNTR c n r (a :: acc)
    | .err e => .err e
    | .panic s => .panic s

def decNFast {α} (c : Codec α) (n : Nat) (b : Bytes) : Outcome (List α × Bytes) := decNTR c n b []

theorem decNTR_eq {α} (c : Codec α) (n : Nat) (b : Bytes) (acc : List α) :
    decNTR c n b acc = (decN c n b).bind fun p => .ok (acc.reverse ++ p.1, p.2) := by
  induction n generalizing b acc with
  | zero => simp [decNTR, decN]
  | succ n ih =>
    simp only [decNTR, decN]
    cases c.dec b with
    | ok p =>
      obtain ⟨a, r⟩ := p
      simp only [ih]
      cases decN c n r <;> simp
    | err e => simp
    | panic s => simp

@[csimp] theorem decN_eq_decNFast : @decN = @decNFast := by
  funext α c n b
  simp only [decNFast, decNTR_eq]
  cases decN c n b <;> simp

/-- exactly `n` elements -/
def repeatN {α} (c : Codec α) (n : Nat) : Codec (List α) where
  enc l := (l.map c.enc).flatten
  dec b := decN c n b
  size l := (l.map c.size).sum
  wf l := l.length = n ∧ ∀ a ∈ l, c.wf a
  wfDec l := @instDecidableAnd _ _ (inferInstanceAs (Decidable (_ = _)))
    (@List.decidableBAll _ _ (fun a => c.wfDec a) l)

/-- a length/count field `cl` followed by a body that depends on it; the value keeps only the
    body (`len` recovers the count when writing). -/
def lenPrefixed {β} (cl : Codec Nat) (body : Nat → Codec β) (len : β → Nat) (dflt : β) : Codec β :=
  inj (dpair cl body) (fun p => p.2) (fun b => some (len b, b)) (0, dflt)

/-- varint length + bytes (`Script`, filter data, flags …): `vec![0; n]` + `read_exact`. -/
def varBytes : Codec Bytes := lenPrefixed varint vecBytes List.length []

/-- u8 length + bytes -/
def u8Bytes : Codec Bytes := lenPrefixed u8 vecBytes List.length []

/-- varint count + elements, vector built with `Vec::new()` + `push` -/
def listPush {α} (c : Codec α) : Codec (List α) := lenPrefixed varint (repeatN c) List.length []

/-- varint count + elements, vector built with `Vec::with_capacity(count)` (allocation site) -/
def listCap {α} (c : Codec α) : Codec (List α) := listPush c

/-- varint count checked against `max` BEFORE any element is read (`Addr`, `Inv`) -/
def listMax {α} (max : Nat) (c : Codec α) : Codec (List α) :=
  lenPrefixed (refine varint (fun n => decide (n ≤ max)) "BadData") (repeatN c) List.length []

/-- `if let Ok(n) = var_int::read(reader) { for _ in 0..n { push(T::read(reader)?) } }`
    (Blocktxn, Cmpctblock, Getblocktxn): a count that cannot be read is swallowed and leaves the
    cursor at end of input; the writer always writes the count. -/
def listTry {α} (c : Codec α) : Codec (List α) where
  enc l := varint.enc l.length ++ (l.map c.enc).flatten
  dec b := match varint.dec b with
    | .ok (n, r) => decN c n r
    | _ => .ok ([], [])
  size l := varint.size l.length + (l.map c.size).sum
  wf l := l.length < 2 ^ 64 ∧ ∀ a ∈ l, c.wf a
  wfDec l := @instDecidableAnd _ _ (inferInstanceAs (Decidable (_ < _)))
    (@List.decidableBAll _ _ (fun a => c.wfDec a) l)

/-! ## UTF-8 (`String::from_utf8`) -/

/-- the bytes of an ASCII string literal (`"block"`, `"tx"`, `"Unknown"`) -/
def asciiBytes (s : String) : Bytes := s.toList.map fun c => UInt8.ofNat c.toNat

/-- a UTF-8 continuation byte `10xxxxxx` -/
def isCont (b : UInt8) : Bool := 0x80 ≤ b && b ≤ 0xBF

/-- well-formed UTF-8 (Unicode table 3-7), what `core::str::from_utf8` accepts; `fuel` bounds the
    number of scalar values (each consumes at least one byte) -/
def validUtf8Go : Nat → Bytes → Bool
  | _, [] => true
  | 0, _ :: _ => false
  | fuel + 1, b0 :: r =>
    if b0 < 0x80 then validUtf8Go fuel r
    else if b0 < 0xC2 then false
    else if b0 ≤ 0xDF then
      match r with
      | b1 :: r => isCont b1 && validUtf8Go fuel r
      | _ => false
    else if b0 ≤ 0xEF then
      match r with
      | b1 :: b2 :: r =>
        (if b0 = 0xE0 then 0xA0 ≤ b1 && b1 ≤ 0xBF
         else if b0 = 0xED then 0x80 ≤ b1 && b1 ≤ 0x9F
         else isCont b1) && isCont b2 && validUtf8Go fuel r
      | _ => false
    else if b0 ≤ 0xF4 then
      match r with
      | b1 :: b2 :: b3 :: r =>
        (if b0 = 0xF0 then 0x90 ≤ b1 && b1 ≤ 0xBF
         else if b0 = 0xF4 then 0x80 ≤ b1 && b1 ≤ 0x8F
         else isCont b1) && isCont b2 && isCont b3 && validUtf8Go fuel r
      | _ => false
    else false

def validUtf8 (b : Bytes) : Bool := validUtf8Go b.length b

/-- varint length + bytes + `String::from_utf8(..)?` (strings are modelled as their UTF-8 bytes) -/
def varStr : Codec Bytes := refine varBytes validUtf8 "Utf8Error"

/-! ## Irregular trailing fields -/

/-- the read side shared by Version / Createstrm / Streamack:
    `if let Ok(n) = reader.read_u8() { if n > 0 { id = vec![0; n]; read_exact(id)? } }` -/
def assocDec (b : Bytes) : Outcome (Bytes × Bytes) :=
  match u8.dec b with
  | .ok (n, r) => if n > 0 then (vecBytes n).dec r else .ok ([], r)
  | _ => .ok ([], [])

/-- Createstrm/Streamack association id: length byte always written
    (`len().try_into().unwrap()` panics above 255 — outside `wf`). -/
def assocAlways : Codec Bytes where
  enc a := natToLEn 1 a.length ++ a
  dec := assocDec
  size a := 1 + a.length
  wf a := a.length < 256
  wfDec _ := inferInstanceAs (Decidable (_ < _))

/-- Version association id: written only when non-empty; END-OF-PAYLOAD codec
    (an absent id is only recognisable because nothing follows). -/
def assocOpt : Codec Bytes where
  enc a := if a.isEmpty then [] else natToLEn 1 a.length ++ a
  dec := assocDec
  size a := if a.isEmpty then 0 else a.length + 1
  wf a := a.length < 256
  wfDec _ := inferInstanceAs (Decidable (_ < _))

/-- Createstrm stream policy: written only when non-empty, read with
    `if let Ok(n) = var_int::read(reader) { vec![0; n]; read_exact?; from_utf8? }`;
    END-OF-PAYLOAD codec. -/
def policyOpt : Codec Bytes where
  enc a := if a.isEmpty then [] else varint.enc a.length ++ a
  dec b := match varint.dec b with
    | .ok (n, r) => ((vecBytes n).dec r).bind fun x => if validUtf8 x.1 then .ok x else .err "Utf8Error"
    | _ => .ok ([], [])
  size a := if a.isEmpty then 0 else varint.size a.length + a.length
  wf a := a.length < 2 ^ 64 ∧ validUtf8 a = true
  wfDec _ := inferInstanceAs (Decidable (_ ∧ _))

end CG.Model.Wire
