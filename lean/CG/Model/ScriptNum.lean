import CG.Base.Lemmas
/-!
Model of `src/script/stack.rs`: `decode_bool`, `decode_num`, `encode_num`, `decode_bigint`,
`encode_bigint`, `pop_bool`, `pop_num`, `pop_bigint`.  `num-bigint`'s `BigInt` is `Int`
(`to_bytes_le` = minimal little-endian magnitude, `[0]` for zero; `from_bytes_le` = `leToNat`).
Byte bit-operations sit behind `setSign`/`clearSign`/`signSet` with `toNat` lemmas.
-/
namespace CG.Model.ScriptNum
open CG

def clearSign (b : UInt8) : UInt8 := b &&& 0x7f
def setSign (b : UInt8) : UInt8 := b ||| 0x80
def signSet (b : UInt8) : Bool := b &&& 0x80 != 0

theorem clearSign_toNat : ∀ b : UInt8, (clearSign b).toNat = b.toNat % 128 :=
  UInt8.forall_of_fin (by decide +kernel)
theorem setSign_toNat : ∀ b : UInt8, b.toNat < 128 → (setSign b).toNat = b.toNat + 128 :=
  UInt8.forall_of_fin (by decide +kernel)
theorem signSet_iff : ∀ b : UInt8, signSet b = decide (128 ≤ b.toNat) :=
  UInt8.forall_of_fin (by decide +kernel)

/-- `decode_bool`: false for empty; true if any byte but the last is non-zero; else last & 127 ≠ 0 -/
def decodeBool (s : Bytes) : Bool :=
  match s.getLast? with
  | none => false
  | some last => s.dropLast.any (· != 0) || (clearSign last != 0)

/-- `BigInt::to_bytes_le().1`: minimal magnitude digits, `[0]` for zero -/
def magBytes (n : Nat) : Bytes := if n = 0 then [0] else natToLE n

/-- `encode_bigint` -/
def encodeBig (z : Int) : Bytes :=
  let m := magBytes z.natAbs
  -- `result.1[result.1.len() - 1]`: `to_bytes_le` never returns an empty vector
  let last := m.getLast?.getD 0
  let r :=
    if last.toNat ≥ 128 then m ++ [if z < 0 then (0x80 : UInt8) else 0x00]
    else if z < 0 then m.dropLast ++ [setSign last] else m
  if r = [0] then [] else r

/-- `decode_bigint` -/
def decodeBig (s : Bytes) : Int :=
  match s.getLast? with
  | none => 0
  | some last =>
    let mag := leToNat (s.dropLast ++ [clearSign last])
    if signSet last then - (mag : Int) else (mag : Int)

/-- `decode_num` (any length; the ≤ 4-byte arms are the shift-and-mask formulas, which equal the
    little-endian value with the sign bit cleared). -/
def decodeNum (s : Bytes) : Outcome Int :=
  match s.getLast? with
  | none => .ok 0
  | some last =>
    if s.length ≤ 4 then
      let mag := leToNat (s.dropLast ++ [clearSign last])
      .ok (if signSet last then - (mag : Int) else (mag : Int))
    else
      -- bytes 4 .. len-2 must be zero and the last byte may only carry the sign
      if ((s.dropLast).drop 4).any (· != 0) then .err "ScriptError"
      else if clearSign last != 0 then .err "ScriptError"
      else
        let mag := leToNat (s.take 4)
        .ok (if signSet last then - (mag : Int) else (mag : Int))

/-- `encode_num` -/
def encodeNum (v : Int) : Outcome Bytes :=
  if v < -2147483647 ∨ v > 2147483647 then .err "ScriptError"
  else
    let p := v.natAbs
    let neg : Nat := if v < 0 then 128 else 0
    if p = 0 then .ok []
    else if p < 128 then .ok [UInt8.ofNat (p + neg)]
    else if p < 32768 then .ok [UInt8.ofNat (p % 256), UInt8.ofNat (p / 256 + neg)]
    else if p < 8388608 then .ok [UInt8.ofNat (p % 256), UInt8.ofNat (p / 256 % 256), UInt8.ofNat (p / 65536 + neg)]
    else .ok [UInt8.ofNat (p % 256), UInt8.ofNat (p / 256 % 256), UInt8.ofNat (p / 65536 % 256),
              UInt8.ofNat (p / 16777216 + neg)]

/-- an encoding is minimal when it is empty or its last byte is needed: not `00`/`80` unless the
    byte before it has its top bit set -/
def Minimal (s : Bytes) : Prop :=
  match s.getLast? with
  | none => True
  | some last =>
    (clearSign last).toNat ≠ 0 ∨ (∃ p, s.dropLast.getLast? = some p ∧ p.toNat ≥ 128)

end CG.Model.ScriptNum
