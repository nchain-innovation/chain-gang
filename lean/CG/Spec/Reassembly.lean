import CG.Base.Bytes
/-!
Reference semantics of message reassembly, written from the P2P wire layout and not from the
reader code: what a receiver that is handed the *whole* byte stream contiguously obtains.

Wire layout of one message: bytes 0-3 magic, 4-15 command (NUL padded), 16-19 payload length
(u32 little-endian), 20-23 first four bytes of `H(payload)` (`H = sha256d`), then the payload.
There is no reader, no schedule and no retained buffer here: only the bytes.

Choices adopted from the library (they are not the subject of C11): the six payload-less
commands must announce length 0 and their checksum field is not inspected; an unknown command
with length 0 likewise; `block` is exempt from the size limit.
-/
namespace CG.Spec.Reassembly
open CG

inductive Kind where
  | payload
  | bare
  | other
deriving Repr, DecidableEq

/-- protocol parameters -/
structure Wire (Msg : Type) where
  magic : Bytes
  maxPayload : Nat
  blockCmd : Bytes
  H : Bytes → Bytes
  kind : Bytes → Kind
  decode : Bytes → Bytes → Except String Msg
  bare : Bytes → Msg
  other : Bytes → Msg

/-- what the front of a byte string amounts to -/
inductive Step (Msg : Type) where
  /-- one complete message, and the bytes after it -/
  | msg (m : Msg) (rest : Bytes)
  /-- no further message: the stream ends here (`err:IoNotConnected`) or is invalid (`err:BadData`, …) -/
  | stop (e : String)

def DISCONNECTED : String := "err:IoNotConnected"
def BAD_DATA : String := "err:BadData"

/-- bytes `off .. off+len` -/
def field (X : Bytes) (off len : Nat) : Bytes := (X.drop off).take len

variable {Msg : Type}

/-- the part of a message after its (already accepted) 24-byte header, `X` = bytes after the header -/
def stepBody (w : Wire Msg) (cmd : Bytes) (size : Nat) (ck : Bytes) (X : Bytes) : Step Msg :=
  match w.kind cmd with
  | .bare => if size ≠ 0 then .stop BAD_DATA else .msg (w.bare cmd) X
  | .other =>
    if size = 0 then .msg (w.other cmd) X
    else if X.length < size then .stop DISCONNECTED
    else if (w.H (X.take size)).take 4 ≠ ck then .stop BAD_DATA
    else .msg (w.other cmd) (X.drop size)
  | .payload =>
    if X.length < size then .stop DISCONNECTED
    else if (w.H (X.take size)).take 4 ≠ ck then .stop BAD_DATA
    else
      match w.decode cmd (X.take size) with
      | .ok m => .msg m (X.drop size)
      | .error e => .stop e

/-- the first message of `X` -/
def step (w : Wire Msg) (X : Bytes) : Step Msg :=
  if X.length < 24 then .stop DISCONNECTED
  else
    let magic := field X 0 4
    let cmd := field X 4 12
    let size := leToNat (field X 16 4)
    let ck := field X 20 4
    if magic ≠ w.magic then .stop BAD_DATA
    else if cmd ≠ w.blockCmd ∧ size > w.maxPayload then .stop BAD_DATA
    else stepBody w cmd size ck (X.drop 24)

/-- for the termination of `parseAll`, and for streams cut inside a message -/
theorem stepBody_msg {w : Wire Msg} {cmd size ck X m X'} (h : stepBody w cmd size ck X = .msg m X') :
    X' = X ∨ (X' = X.drop size ∧
      ∀ Y : Bytes, Y.length < size → stepBody w cmd size ck Y = .stop DISCONNECTED) := by
  unfold stepBody at h ⊢
  generalize w.kind cmd = k at h ⊢
  cases k <;> simp only at h ⊢
  · refine Or.inr ⟨?_, fun Y hY => if_pos hY⟩
    split at h
    · cases h
    · split at h
      · cases h
      · split at h
        · exact (Step.msg.inj h).2.symm
        · cases h
  · split at h
    · cases h
    · exact Or.inl (Step.msg.inj h).2.symm
  · split at h
    · exact Or.inl (Step.msg.inj h).2.symm
    · refine Or.inr ⟨?_, fun Y hY => by rw [if_neg ‹_›, if_pos hY]⟩
      split at h
      · cases h
      · split at h
        · cases h
        · exact (Step.msg.inj h).2.symm

theorem step_length {w : Wire Msg} {X m X'} (h : step w X = .msg m X') : X'.length < X.length := by
  unfold step at h
  split at h
  · cases h
  · simp only at h
    split at h
    · cases h
    · split at h
      · cases h
      · -- the rest is what follows the 24 header bytes, or that without the payload
        rcases stepBody_msg h with e | ⟨e, _⟩
        · simp [e]
          omega
        · simp [e]
          omega

/-- all messages of `X` in order, and why there are no more -/
def parseAll (w : Wire Msg) (X : Bytes) : List Msg × String :=
  match _h : step w X with
  | .msg m X' => let r := parseAll w X'; (m :: r.1, r.2)
  | .stop e => ([], e)
termination_by X.length
decreasing_by exact step_length (by assumption)

/-- the same when a header has already been taken off the front of the stream -/
def parseFrom (w : Wire Msg) (hdr : Option (Bytes × Nat × Bytes)) (X : Bytes) : List Msg × String :=
  match hdr with
  | none => parseAll w X
  | some (cmd, size, ck) =>
    match stepBody w cmd size ck X with
    | .msg m X' => let r := parseAll w X'; (m :: r.1, r.2)
    | .stop e => ([], e)

/-! ### The sender's side: frames -/

/-- a message on the wire: command and payload bytes -/
structure Frame where
  cmd : Bytes
  payload : Bytes
deriving Repr, DecidableEq

/-- the bytes a sender emits for a frame -/
def Frame.bytes (w : Wire Msg) (f : Frame) : Bytes :=
  w.magic ++ f.cmd ++ natToLEn 4 f.payload.length ++ (w.H f.payload).take 4 ++ f.payload

/-- the message a frame carries -/
def Frame.msg? (w : Wire Msg) (f : Frame) : Option Msg :=
  match w.kind f.cmd with
  | .bare => some (w.bare f.cmd)
  | .other => some (w.other f.cmd)
  | .payload =>
    match w.decode f.cmd f.payload with
    | .ok m => some m
    | .error _ => none

/-- the protocol parameters make sense: 4 magic bytes, a hash of at least 4 bytes -/
structure Wire.WF (w : Wire Msg) : Prop where
  magicLen : w.magic.length = 4
  hashLen : ∀ p, 4 ≤ (w.H p).length

/-- a frame the receiver must accept -/
structure Frame.Valid (w : Wire Msg) (f : Frame) : Prop where
  cmdLen : f.cmd.length = 12
  size32 : f.payload.length < 2 ^ 32
  sizeOk : f.cmd = w.blockCmd ∨ f.payload.length ≤ w.maxPayload
  bareEmpty : w.kind f.cmd = .bare → f.payload = []
  decodes : (f.msg? w).isSome

/-- the messages a list of frames carries, in order -/
def expected (w : Wire Msg) (frames : List Frame) : List Msg := frames.filterMap (Frame.msg? w)

/-- the stream a sender produces for a list of frames -/
def streamOf (w : Wire Msg) (frames : List Frame) : Bytes := frames.flatMap (Frame.bytes w)

/-- nothing, or the beginning of a valid frame that stops before its end -/
def StrictFramePrefix (w : Wire Msg) (tail : Bytes) : Prop :=
  tail = [] ∨ ∃ f rest, Frame.Valid w f ∧ rest ≠ [] ∧ tail ++ rest = f.bytes w

end CG.Spec.Reassembly
