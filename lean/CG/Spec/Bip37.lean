import CG.Base.Bytes
/-!
Reference semantics for C14, written from BIP-37 ("Partial Merkle branch format", "Constructing a
partial merkle tree object", "Parsing a partial merkle tree object") and from Bitcoin Core's
`CPartialMerkleTree` (`CalcTreeWidth`, `CalcHash`, `TraverseAndBuild`, `TraverseAndExtract`,
`ExtractMatches`), NOT from chain-gang.  Nodes are addressed by tree POSITION `(height, pos)`:
height 0 is the row of transaction ids, `width n h = ⌈n / 2^h⌉` nodes in row `h`; node `(h+1, p)`
has the children `(h, 2p)` and — iff `2p+1 < width n h` — `(h, 2p+1)`; a node without a right child
hashes its left child with itself.  `H` is the hash of a 64-byte concatenation.

Decisions taken from the BIP text (each compared with chain-gang in `checks/C14.py`):
* the object is invalid if a flag bit or a hash is needed and there is none;
* "all hashes were consumed and no more", "all bits were consumed (except padding to a full byte)";
* "in two-hash-only nodes, the left and right child hashes are different" (CVE-2012-2459);
* the computed root equals the header's Merkle root; a count of 0 transactions is invalid.
Core additionally rejects counts above its block-size bound and `hashes.len() > count` before
traversing; the first is a Core consensus constant that does not apply to BSV, the second is implied
by "all hashes consumed" (each consumed hash covers at least one distinct leaf).  The block header's
own proof of work is C19's subject.
-/
namespace CG.Spec.Bip37
open CG

/-! ## Merkle root: level by level, an odd level duplicates its last node -/

/-- one level up: hash adjacent pairs; a last node without partner is paired with itself -/
def pairUp (H : Bytes → Bytes) : List Bytes → List Bytes
  | [] => []
  | [a] => [H (a ++ a)]
  | a :: b :: r => H (a ++ b) :: pairUp H r

theorem pairUp_length (H : Bytes → Bytes) (l : List Bytes) :
    (pairUp H l).length = (l.length + 1) / 2 := by
  induction l using pairUp.induct with
  | case1 => rfl
  | case2 a => simp [pairUp]
  | case3 a b r ih =>
    simp only [pairUp, List.length_cons, ih]
    omega

/-- the Merkle root of a non-empty list of ids (`none` for the empty list) -/
def merkleRoot (H : Bytes → Bytes) : List Bytes → Option Bytes
  | [] => none
  | [a] => some a
  | a :: b :: r => merkleRoot H (pairUp H (a :: b :: r))
termination_by l => l.length
decreasing_by simp only [pairUp, List.length_cons, pairUp_length]; omega

/-! ## Tree shape -/

/-- Core `CalcTreeWidth`: `(nTransactions + (1 << height) - 1) >> height` -/
def width (n h : Nat) : Nat := (n + 2 ^ h - 1) / 2 ^ h

/-- Core: `nHeight = 0; while (CalcTreeWidth(nHeight) > 1) nHeight++;` (`fuel` rounds at most) -/
def heightFrom (n : Nat) : Nat → Nat → Nat
  | 0, h => h
  | fuel + 1, h => if width n h > 1 then heightFrom n fuel (h + 1) else h

/-- height of the root row (`n` rounds always suffice since `n ≤ 2^n`) -/
def height (n : Nat) : Nat := heightFrom n n 0

/-- Core `CalcHash`: the hash of node `(h, p)` of the full tree over `txids` -/
def calcHash (H : Bytes → Bytes) (txids : List Bytes) : Nat → Nat → Bytes
  | 0, p => txids[p]?.getD []
  | h + 1, p =>
    let left := calcHash H txids h (2 * p)
    let right := if 2 * p + 1 < width txids.length h then calcHash H txids h (2 * p + 1) else left
    H (left ++ right)

/-- the root by position: node `(height, 0)` -/
def rootByPosition (H : Bytes → Bytes) (txids : List Bytes) : Bytes :=
  calcHash H txids (height txids.length) 0

/-! ## Flag bits -/

/-- BIP-37: "flag bits, packed per 8 in a byte, least significant bit first" -/
def bitsOfByte (b : UInt8) : List Bool := (List.range 8).map fun k => b.toNat.testBit k

def bitsOf (flags : Bytes) : List Bool := flags.flatMap bitsOfByte

/-- value of a bit string, least significant bit first -/
def bitsVal : List Bool → Nat
  | [] => 0
  | b :: r => (if b then 1 else 0) + 2 * bitsVal r

/-- packing, as Core's serialisation does: `vBytes[p / 8] |= vBits[p] << (p % 8)` -/
def byteOfBits (bs : List Bool) : UInt8 := UInt8.ofNat (bitsVal bs)

def packBits : Nat → List Bool → Bytes
  | 0, _ => []
  | fuel + 1, bs => if bs.isEmpty then [] else byteOfBits (bs.take 8) :: packBits fuel (bs.drop 8)

def bytesOfBits (bs : List Bool) : Bytes := packBits bs.length bs

/-! ## Parsing (Core `TraverseAndExtract` / `ExtractMatches`) -/

/-- `nBitsUsed`, `nHashUsed`, `vMatch` -/
structure PST where
  bitsUsed : Nat
  hashUsed : Nat
  matched : List Bytes
deriving Repr, DecidableEq

/-- Parse the subtree below node `(h, p)`; `none` = the object is invalid. -/
def extractAux (H : Bytes → Bytes) (n : Nat) (bits : List Bool) (hashes : List Bytes) :
    Nat → Nat → PST → Option (Bytes × PST)
  | h, p, st =>
    -- read a bit from the flag bit list
    match bits[st.bitsUsed]? with
    | none => none
    | some parentOfMatch =>
      let st := { st with bitsUsed := st.bitsUsed + 1 }
      match h, parentOfMatch with
      | h + 1, true =>
        -- internal node that is a parent of a match: descend
        match extractAux H n bits hashes h (2 * p) st with
        | none => none
        | some (left, st) =>
          if 2 * p + 1 < width n h then
            match extractAux H n bits hashes h (2 * p + 1) st with
            | none => none
            | some (right, st) =>
              if left = right then none   -- identical children: invalid (CVE-2012-2459)
              else some (H (left ++ right), st)
          else some (H (left ++ left), st)
      | h, parentOfMatch =>
        -- bit 0, or a leaf: read a hash from the hashes list and use it as this node's hash
        match hashes[st.hashUsed]? with
        | none => none
        | some x =>
          let st := { st with hashUsed := st.hashUsed + 1 }
          if h = 0 ∧ parentOfMatch = true then some (x, { st with matched := st.matched ++ [x] })
          else some (x, st)

/-- Parse a partial merkle tree object for a block of `n` transactions whose header commits to
    `root`: the matched transaction ids in block order, or `none` if the object is invalid. -/
def extract (H : Bytes → Bytes) (n : Nat) (flags : Bytes) (hashes : List Bytes) (root : Bytes) :
    Option (List Bytes) :=
  if n = 0 then none
  else
    let bits := bitsOf flags
    match extractAux H n bits hashes (height n) 0 ⟨0, 0, []⟩ with
    | none => none
    | some (r, st) =>
      -- all bits consumed except padding up to a full byte
      if (st.bitsUsed + 7) / 8 ≠ (bits.length + 7) / 8 then none
      -- all hashes consumed
      else if st.hashUsed ≠ hashes.length then none
      -- the root matches the block header
      else if r ≠ root then none
      else some st.matched

/-! ## Construction (Core `TraverseAndBuild`) -/

/-- does the subtree below `(h, p)` contain a matched transaction?  (`matched[i]` for the leaves
    `p·2^h ≤ i < min((p+1)·2^h, n)`) -/
def parentOfMatch (matched : List Bool) (h p : Nat) : Bool :=
  ((matched.drop (p * 2 ^ h)).take (2 ^ h)).any id

/-- depth-first construction: appends to the bit list and the hash list -/
def buildAux (H : Bytes → Bytes) (txids : List Bytes) (matched : List Bool) :
    Nat → Nat → List Bool × List Bytes → List Bool × List Bytes
  | h, p, (bits, hashes) =>
    let pm := parentOfMatch matched h p
    match h, pm with
    | h + 1, true =>
      let acc := buildAux H txids matched h (2 * p) (bits ++ [true], hashes)
      if 2 * p + 1 < width txids.length h then buildAux H txids matched h (2 * p + 1) acc else acc
    | h, pm => (bits ++ [pm], hashes ++ [calcHash H txids h p])

/-- the partial merkle tree object for `txids` with match mask `matched`: (flag bytes, hashes) -/
def build (H : Bytes → Bytes) (txids : List Bytes) (matched : List Bool) : Bytes × List Bytes :=
  let (bits, hashes) := buildAux H txids matched (height txids.length) 0 ([], [])
  (bytesOfBits bits, hashes)

/-- the matched ids in block order -/
def matchedIds (txids : List Bytes) (matched : List Bool) : List Bytes :=
  (txids.zip matched).filterMap fun (t, m) => if m then some t else none

end CG.Spec.Bip37
