-- Root of the `CG` library: formal model, specification and theorems for chain-gang.
-- Importing the property modules that no other property module imports (they reach all the others) and the few
-- modules no property module reaches makes `lake build` check the whole development; the driver `cgdrv`
-- (Main.lean) imports `CG.Drv.All` only.
import CG.Crypto.Test
import CG.Drv.All
import CG.Props.Block
import CG.Props.C03cov
import CG.Props.C06
import CG.Props.C08
import CG.Props.C09
import CG.Props.C10
import CG.Props.C12
import CG.Props.C12conc
import CG.Props.C12wire
import CG.Props.C13
import CG.Props.C15
import CG.Props.C16
import CG.Props.C17
import CG.Props.C18
import CG.Props.C19
import CG.Props.C20
import CG.Props.Compose
import CG.Props.Genesis
import CG.Props.HashText
import CG.Props.TxChecker
